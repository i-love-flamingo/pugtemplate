import PugProofs.Props.C01
import PugProofs.Props.C02
import PugProofs.Props.C03
import PugProofs.Props.C04
import PugProofs.Props.C05
import PugProofs.Props.C06
import PugProofs.Props.C07
import PugProofs.Props.C08
import PugProofs.Props.C09
import PugProofs.Props.C10
import PugProofs.Props.C11
import PugProofs.Props.C12
import PugProofs.Props.C13
import PugProofs.Props.C14
import PugProofs.Props.C15
import PugProofs.Props.C16
import PugProofs.Props.C17
import PugProofs.Props.C18
import PugProofs.Props.C19
import PugProofs.Props.C20
