import PugModel.Data.GoVal
import PugProofs.Tpl.Exec
import PugProofs.Tpl.Heap
/-!
Present paths: for every Go data tree and every path of member names that Go can follow through it (map keys, struct fields
and niladic methods by lower-camel name, transparently through pointers and interfaces), the converted value carries the same
leaf at the same path - in the heap `convert` returns and in every heap that extends it.
-/
namespace Pug.Props.C11P
open Pug Pug.Tpl Pug.Data

/-! ## `convert` only extends the heap -/

theorem fold_ext {α β : Type} (step : Heap × β → α → Heap × β) (hstep : ∀ acc x, Ext acc.1 (step acc x).1)
    (l : List α) (acc : Heap × β) : Ext acc.1 (l.foldl step acc).1 :=
  List.foldlRecOn (motive := fun b => Ext acc.1 b.1) l step (Ext.refl _) fun b hb x _ => hb.trans (hstep b x)

theorem convert_ext (fuel : Nat) : ∀ (g : GoVal) (h : Heap), Ext h (convertGoF fuel g h).1 := by
  induction fuel with
  | zero => intro g h; exact Ext.refl _
  | succ fuel ih =>
    intro g h
    cases g with
    | nil | str | num | bool => exact Ext.refl _
    | ptr v | iface v => cases v with
      | none => exact Ext.refl _
      | some v => exact ih v h
    | slice items =>
      simp only [convertGoF]
      exact Ext.trans (fold_ext _ (fun acc x => by simpa using ih x acc.1) items (h, [])) (ext_allocArr _ _)
    | map _ | struct _ _ =>
      simp only [convertGoF]
      exact Ext.trans (fold_ext _ (fun acc x => by simpa using ih x.2 acc.1) _ (h, [])) (ext_allocMap _ _)

/-! ## following member names from a converted value -/

/-- the member chain `v.n1.n2. ... .nk` read from a heap: members of maps; Nil and the undefined value absorb every further step;
`none` when a step is anything else -/
def follow (h : Heap) : Val → List String → Option Val
  | v, [] => some v
  | .map a, n :: rest => if n == "__assign" then none else follow h (mapMember (h.getMap a) n) rest
  | .nil, _ => some .nil
  | .invalid, _ => some .invalid
  | _, _ :: _ => none

theorem follow_nil (h : Heap) (names : List String) : follow h .nil names = some .nil := by cases names <;> rfl

theorem follow_invalid (h : Heap) (names : List String) : follow h .invalid names = some .invalid := by cases names <;> rfl

def pathOf (recv : TExpr) : List String → TExpr
  | [] => recv
  | n :: rest => pathOf (.field recv n []) rest

/-- the executor evaluates the member chain to what `follow` reads, in the state the receiver left -/
theorem eval_follow (names : List String) : ∀ (fuel : Nat) (recv : TExpr) (st st' : St) (v w : Val),
    evalExpr (fuel + 1) recv st = .ok (v, st') → follow st'.heap v names = some w →
    evalExpr (fuel + 1 + names.length) (pathOf recv names) st = .ok (w, st') := by
  induction names with
  | nil => intro fuel recv st st' v w h hf; cases hf; exact h
  | cons n rest ih =>
    intro fuel recv st st' v w h hf
    rw [show fuel + 1 + (n :: rest).length = fuel + 1 + 1 + rest.length from Nat.add_right_comm (fuel + 1) rest.length 1]
    -- one step `recv.n`, by the kind of the receiver's value; then the rest of the chain from there
    cases v with
    | map a =>
      simp only [follow] at hf
      split at hf
      · cases hf
      · rename_i hn
        exact ih _ _ _ _ _ w (evalExpr_field_map (by simpa using hn) h) hf
    | nil => cases hf; exact ih _ _ _ _ _ _ (evalExpr_field_nil n h) (follow_nil _ _)
    | invalid => cases hf; exact ih _ _ _ _ _ _ (evalExpr_field_invalid n [] h) (follow_invalid _ _)
    | _ => cases hf

/-! ## what Go reaches -/

/-- the member table of a struct value: exported fields and niladic methods under their lower-camel names -/
def structEntries (fields : List (String × Bool × GoVal)) (methods : List (String × GoVal)) : List (String × GoVal) :=
  (fields.filter (·.2.1)).map (fun f => (lowerFirst f.1, f.2.2)) ++ methods.map (fun m => (lowerFirst m.1, m.2))

/-- `Reach n g p r`: following the member names `p` from the Go value `g` - through map keys, struct fields / methods by
lower-camel name, transparently through pointers and interfaces - arrives at `r`; `n` counts the steps (the conversion depth the
path needs) -/
inductive Reach : Nat → GoVal → List String → GoVal → Prop
  | here (g : GoVal) : Reach 0 g [] g
  | ptr {n : Nat} {v : GoVal} {p : List String} {r : GoVal} : Reach n v p r → Reach (n + 1) (.ptr (some v)) p r
  | iface {n : Nat} {v : GoVal} {p : List String} {r : GoVal} : Reach n v p r → Reach (n + 1) (.iface (some v)) p r
  | key {n : Nat} {pre post : List (String × GoVal)} {k : String} {v : GoVal} {p : List String} {r : GoVal} :
      (∀ e ∈ pre, e.1 ≠ k) → k ≠ "__assign" → Reach n v p r → Reach (n + 1) (.map (pre ++ (k, v) :: post)) (k :: p) r
  | field {n : Nat} {fields : List (String × Bool × GoVal)} {methods : List (String × GoVal)} {pre post : List (String × GoVal)}
      {k : String} {v : GoVal} {p : List String} {r : GoVal} :
      structEntries fields methods = pre ++ (k, v) :: post → (∀ e ∈ pre, e.1 ≠ k) → (∀ e ∈ post, e.1 ≠ k) → k ≠ "__assign" →
      Reach n v p r → Reach (n + 1) (.struct fields methods) (k :: p) r

/-- the converted form of a scalar leaf -/
def leafVal : GoVal → Option Val
  | .str s => some (.S s)
  | .num q => some (.N q)
  | .bool b => some (.B b)
  -- the ends of a path at which the data stops: Go's nil, a nil pointer, a nil interface value (of ANY interface type - the
  -- repair 318a99d made the non-empty ones convert like the empty one) are the template's null
  | .nil => some .nil
  | .ptr none => some .nil
  | .iface none => some .nil
  | _ => none

theorem convert_leaf (fuel : Nat) (g : GoVal) (v : Val) (h : Heap) (hl : leafVal g = some v) :
    convertGoF (fuel + 1) g h = (h, v) := by
  cases g with
  | ptr o | iface o => cases o <;> cases hl; rfl
  | nil | str | num | bool => cases hl; rfl
  | slice | map | struct => cases hl

/-! ## the folds that build a member table

A map appends its entries (`appIns`: on a repeated key the first entry is the one found), a struct sets them (`assocSet`: the last
one wins). Both convert each value in the heap the earlier entries left; what differs is only how an entry is stored, `ins`. -/

theorem assocGet_cons (e : String × Val) (l : List (String × Val)) (k : String) :
    assocGet (e :: l) k = if e.1 == k then some e.2 else assocGet l k := by
  simp only [assocGet, List.find?_cons]; split <;> simp [*]

theorem assocGet_head (k : String) (v : Val) (m : List (String × Val)) : assocGet ((k, v) :: m) k = some v := by
  simp [assocGet]

theorem assocGet_append (l m : List (String × Val)) (k : String) :
    assocGet (l ++ m) k = (assocGet l k).or (assocGet m k) := by
  simp only [assocGet, List.find?_append, Option.map_or]

theorem assocGet_set_same (l : List (String × Val)) (k : String) (v : Val) : assocGet (assocSet l k v) k = some v := by
  fun_induction assocSet l k v <;> simp_all [assocGet_cons]

theorem assocGet_set_other (l : List (String × Val)) (k k' : String) (v : Val) (hk : k' ≠ k) :
    assocGet (assocSet l k' v) k = assocGet l k := by
  fun_induction assocSet l k' v <;> simp_all [assocGet_cons]

def appIns (l : List (String × Val)) (k : String) (v : Val) : List (String × Val) := l ++ [(k, v)]

theorem assocGet_appIns (l : List (String × Val)) (k k' : String) (v : Val) :
    assocGet (appIns l k' v) k = (assocGet l k).or (if k' == k then some v else none) := by
  rw [appIns, assocGet_append, assocGet_cons]; rfl

def stepIns (ins : List (String × Val) → String → Val → List (String × Val)) (fuel : Nat)
    (acc : Heap × List (String × Val)) (kv : String × GoVal) : Heap × List (String × Val) :=
  let (h', v) := convertGoF fuel kv.2 acc.1
  (h', ins acc.2 kv.1 v)

variable {ins : List (String × Val) → String → Val → List (String × Val)} {fuel : Nat} {k : String}

/-- the item stored under `k` by the entry `(k, gv)` is the conversion of `gv` in the heap the earlier entries left, provided the
entry is found when it has just been stored (`hput`) and the later entries leave it in place (`hkeep`) -/
theorem fold_key (pre post : List (String × GoVal)) (gv : GoVal) (h : Heap)
    (hput : ∀ v, assocGet (ins (pre.foldl (stepIns ins fuel) (h, [])).2 k v) k = some v)
    (hkeep : ∀ x ∈ post, ∀ l v w, assocGet l k = some w → assocGet (ins l x.1 v) k = some w) :
    ∃ hk, Ext (convertGoF fuel gv hk).1 ((pre ++ (k, gv) :: post).foldl (stepIns ins fuel) (h, [])).1 ∧
      assocGet ((pre ++ (k, gv) :: post).foldl (stepIns ins fuel) (h, [])).2 k = some (convertGoF fuel gv hk).2 := by
  rw [List.foldl_append, List.foldl_cons]
  exact ⟨_, List.foldlRecOn (motive := fun acc : Heap × List (String × Val) => Ext _ acc.1 ∧ assocGet acc.2 k = some _) post _ ⟨Ext.refl _, hput _⟩
    fun acc ⟨e, hi⟩ x hx => ⟨e.trans (convert_ext fuel x.2 acc.1), hkeep x hx _ _ _ hi⟩⟩

/-! ## the theorem: what Go reaches is what the converted value carries -/

theorem convert_map (fuel : Nat) (es : List (String × GoVal)) (h : Heap) :
    convertGoF (fuel + 1) (.map es) h =
      (es.foldl (stepIns appIns fuel) (h, [])).1.allocMap { items := (es.foldl (stepIns appIns fuel) (h, [])).2, order := [] } := rfl

theorem convert_struct (fuel : Nat) (fields : List (String × Bool × GoVal)) (methods : List (String × GoVal)) (h : Heap) :
    convertGoF (fuel + 1) (.struct fields methods) h =
      ((structEntries fields methods).foldl (stepIns assocSet fuel) (h, [])).1.allocMap
        { items := ((structEntries fields methods).foldl (stepIns assocSet fuel) (h, [])).2, order := [] } := rfl

/-- a freshly allocated map read from any later heap -/
theorem follow_alloc {h1 h'' : Heap} {items : List (String × Val)} {k : String} {vk : Val} (p : List String)
    (hk : k ≠ "__assign") (he : Ext (h1.allocMap { items := items, order := [] }).1 h'') (hi : assocGet items k = some vk) :
    follow h'' (h1.allocMap { items := items, order := [] }).2 (k :: p) = follow h'' vk p := by
  have hn : (k == "__assign") = false := by simpa using hk
  have hg : h''.getMap h1.maps.length = { items := items, order := [] } := by
    rw [he.getMap _ (by simp [Heap.allocMap]), Heap.getMap_allocMap_new]
  show follow h'' (.map h1.maps.length) (k :: p) = _
  simp only [follow, hn, hg, mapMember, hi]
  rfl

theorem reach_convert {n : Nat} {g : GoVal} {p : List String} {r : GoVal} (hr : Reach n g p r) (lv : Val) (hl : leafVal r = some lv) :
    ∀ (fuel : Nat) (h h'' : Heap), n < fuel → Ext (convertGoF fuel g h).1 h'' → follow h'' (convertGoF fuel g h).2 p = some lv := by
  induction hr with (intro fuel h h'' hf he; obtain ⟨f, rfl⟩ := Nat.exists_eq_add_one_of_ne_zero (Nat.ne_zero_of_lt hf))
  | here g =>
    rw [convert_leaf f g lv h hl]
    rfl
  | ptr _ ih | iface _ ih =>
    exact ih hl f h h'' (Nat.lt_of_succ_lt_succ hf) he
  | @key n pre post k v p r hpre hk _ ih =>
    -- appended entries: none of `pre` has the key, so the entry is the first under it, and appending later ones keeps it so
    have hno : assocGet (pre.foldl (stepIns appIns f) (h, [])).2 k = none :=
      List.foldlRecOn (motive := fun acc : Heap × List (String × Val) => assocGet acc.2 k = none) pre _ rfl
        fun acc hi x hx => by simp [stepIns, assocGet_appIns, hi, hpre x hx]
    obtain ⟨hk', e, hi⟩ := fold_key (ins := appIns) (fuel := f) (k := k) pre post v h (fun v => by simp [assocGet_appIns, hno])
      (fun _ _ l v w hw => by simp [assocGet_appIns, hw])
    rw [convert_map] at he ⊢
    rw [follow_alloc p hk he hi]
    exact ih hl f hk' h'' (Nat.lt_of_succ_lt_succ hf) (e.trans ((ext_allocMap _ _).trans he))
  | @field n fields methods pre post k v p r hent _ hpost hk _ ih =>
    -- set entries: the entry replaces what was stored under its key, and later ones with other keys leave it
    obtain ⟨hk', e, hi⟩ := fold_key (fuel := f) pre post v h (fun _ => assocGet_set_same _ _ _)
      (fun x hx l v w hw => by rw [assocGet_set_other _ _ _ _ (hpost x hx), hw])
    rw [convert_struct, hent] at he ⊢
    rw [follow_alloc p hk he hi]
    exact ih hl f hk' h'' (Nat.lt_of_succ_lt_succ hf) (e.trans ((ext_allocMap _ _).trans he))

end Pug.Props.C11P
