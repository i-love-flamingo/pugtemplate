import PugProofs.Tpl.Exec
import PugProofs.Tpl.Heap
/-!
Frame lemmas for the runtime helper that builds a mixin call's `attributes` object (`__op__map_params`, model `mapParams`):
whatever the argument list, the helper only APPENDS arrays and maps to the heap. Every array and map that existed before the call -
in particular a page-data array given as the first of several values of a repeated attribute name (`+m(class=xs class='x')`) - is
exactly what it was, and nothing else of the execution state changes.
-/
namespace Pug.Props.C03F
open Pug Pug.Tpl Pug.Props.C11P

/-- `Grows st st'`: the two states differ only by arrays and maps appended to the heap -/
def Grows (st st' : St) : Prop := Ext st.heap st'.heap ∧ st' = { st with heap := st'.heap }

theorem Grows.refl (st : St) : Grows st st := ⟨.refl _, rfl⟩

theorem Grows.trans {a b c : St} (h1 : Grows a b) (h2 : Grows b c) : Grows a c :=
  ⟨h1.1.trans h2.1, by rw [h2.2, h1.2]⟩

/-- what `Grows` means for a reader: every old array and map is where it was, with the content it had -/
theorem Grows.getArr {st st' : St} (g : Grows st st') (a : Nat) (ha : a < st.heap.arrs.length) :
    st'.heap.getArr a = st.heap.getArr a := g.1.getArr a ha

theorem Grows.getMap {st st' : St} (g : Grows st st') (a : Nat) (ha : a < st.heap.maps.length) :
    st'.heap.getMap a = st.heap.getMap a := g.1.getMap a ha

theorem Grows.rest {st st' : St} (g : Grows st st') :
    st'.vars = st.vars ∧ st'.globals = st.globals ∧ st'.out = st.out ∧ st'.depth = st.depth ∧ st'.dot = st.dot ∧ st'.closures = st.closures := by
  rw [g.2]; simp

/-- an action that, when it returns, has only grown the heap; closed under `pure`, `>>=` and `mapM` -/
def GrowsM {α : Type} (m : M α) : Prop := ∀ st a st', m st = .ok (a, st') → Grows st st'

theorem GrowsM.pure {α : Type} (a : α) : GrowsM (pure a : M α) := by
  intro st b st' h; cases h; exact .refl _

theorem GrowsM.bind {α β : Type} {m : M α} {f : α → M β} (hm : GrowsM m) (hf : ∀ a, GrowsM (f a)) : GrowsM (m >>= f) := by
  intro st b st' h
  rw [bind_run] at h
  cases hx : m st with
  | error e => simp [hx] at h
  | ok x => rw [hx] at h; exact (hm _ _ _ hx).trans (hf _ _ _ _ h)

theorem GrowsM.mapM {α β : Type} {f : α → M β} (hf : ∀ a, GrowsM (f a)) : ∀ l : List α, GrowsM (l.mapM f)
  | [] => .pure _
  | a :: l => by
    rw [List.mapM_cons]
    exact .bind (hf a) fun _ => .bind (GrowsM.mapM hf l) fun _ => .pure _

theorem allocArr_grows (items : List Val) (st st' : St) (v : Val) (h : allocArr items st = .ok (v, st')) :
    Grows st st' ∧ v = .arr st.heap.arrs.length := by
  cases h; exact ⟨⟨ext_allocArr _ _, rfl⟩, rfl⟩

theorem allocMap_grows (m : MapObj) (st st' : St) (v : Val) (h : allocMap m st = .ok (v, st')) :
    Grows st st' ∧ v = .map st.heap.maps.length := by
  cases h; exact ⟨⟨ext_allocMap _ _, rfl⟩, rfl⟩

theorem mapParamsItem_grows (ps : List (String × Val)) (k : String) : GrowsM (mapParamsItem ps k) := by
  unfold mapParamsItem
  split
  · exact .pure _
  · exact .bind (fun _ _ _ h => (allocArr_grows _ _ _ _ h).1) fun _ => .pure _

/-- the helper as a whole: the state only grows, and the result is a map that did not exist before -/
theorem mapParams_grows (kvs : List Val) (st st' : St) (v : Val) (h : mapParams kvs st = .ok (v, st')) :
    Grows st st' ∧ ∃ a, v = .map a ∧ st.heap.maps.length ≤ a := by
  unfold mapParams at h
  cases hm : mpairs kvs with
  | none => simp [hm] at h
  | some ps =>
    simp only [hm, bind_run, ofOpt_some] at h
    split at h
    · rename_i items s1 hy
      have g1 := GrowsM.mapM (mapParamsItem_grows ps) _ _ _ _ hy
      obtain ⟨g2, hv⟩ := allocMap_grows _ _ _ _ h
      obtain ⟨_, am, _, e⟩ := g1.1
      exact ⟨g1.trans g2, _, hv, by simp [e]⟩
    · cases h

end Pug.Props.C03F
