import PugProofs.C13.Static
/-!
Debug mode only DELETES white space (static documents): the debug-mode output is obtained from the production-mode output by
deleting white-space characters - it never adds a character.

Route: (1) of what a list prints, merging changes nothing and trimming only deletes white space (`wsdel_applyTrims`); (2) what
merging + trimming prints is computed run by run (`outR` over `runs`): every text run between two actions, left-trimmed behind a
separator, right-trimmed in front of one; (3) the separator's own blanks and line break are always inside what is trimmed, so the
debug list prints what the same list with BARE separators prints (`rel2_out`) - by (1) the serialisation with white space deleted.
-/
namespace Pug.Props.C13D
open Pug Pug.Tpl Pug.Props.C06S Pug.Props.C13S
open Pug.Props.C02D (trimHead)

/-- `WsDel w p`: `w` is `p` with some white-space characters deleted -/
inductive WsDel : List Char → List Char → Prop
  | nil : WsDel [] []
  | keep (c : Char) {a b : List Char} : WsDel a b → WsDel (c :: a) (c :: b)
  | drop (c : Char) {a b : List Char} : isWs c = true → WsDel a b → WsDel a (c :: b)

theorem WsDel.refl : ∀ l : List Char, WsDel l l
  | [] => .nil
  | c :: r => .keep c (WsDel.refl r)

theorem WsDel.append {a b c d : List Char} (h1 : WsDel a b) (h2 : WsDel c d) : WsDel (a ++ c) (b ++ d) := by
  induction h1 with
  | nil => simpa using h2
  | keep x _ ih => exact .keep x ih
  | drop x hx _ ih => exact .drop x hx ih

theorem WsDel.trans {a b c : List Char} (h1 : WsDel a b) (h2 : WsDel b c) : WsDel a c := by
  induction h2 generalizing a with
  | nil => exact h1
  | keep x _ ih =>
    cases h1 with
    | keep _ h => exact .keep x (ih h)
    | drop _ hx h => exact .drop x hx (ih h)
  | drop x hx _ ih => exact .drop x hx (ih h1)

theorem wsdel_dropWhile (l : List Char) : WsDel (l.dropWhile isWs) l := by
  induction l with
  | nil => exact .nil
  | cons c r ih =>
    by_cases h : isWs c = true
    · simp only [List.dropWhile_cons, h]; exact .drop c h ih
    · simp only [List.dropWhile_cons, h]; exact WsDel.refl _

theorem wsdel_reverse {a b : List Char} (h : WsDel a b) : WsDel a.reverse b.reverse := by
  induction h with
  | nil => exact .nil
  | keep c _ ih => simpa using WsDel.append ih (WsDel.refl [c])
  | drop c hc _ ih =>
    have : WsDel ([] : List Char) [c] := .drop c hc .nil
    simpa using WsDel.append ih this

theorem wsdel_trimLeft (t : String) : WsDel (trimLeftWs t).toList t.toList := by
  simpa [trimLeftWs] using wsdel_dropWhile t.toList

theorem wsdel_trimRight (t : String) : WsDel (trimRightWs t).toList t.toList := by
  simpa [trimRightWs] using wsdel_reverse (wsdel_dropWhile t.toList.reverse)

theorem wsdel_filter : ∀ p : List Char, WsDel (p.filter fun c => !isWs c) p
  | [] => .nil
  | c :: r => by
    cases h : isWs c <;> simp only [List.filter_cons, h, Bool.not_true]
    · exact .keep c (wsdel_filter r)
    · exact .drop c h (wsdel_filter r)

theorem wsdel_stripWs {w p : List Char} (h : WsDel w p) : w.filter (fun c => !isWs c) = p.filter (fun c => !isWs c) := by
  induction h with
  | nil => rfl
  | keep c _ ih => simp [List.filter_cons, ih]
  | drop c hc _ ih => simp [hc, ih]

theorem dbStr_mergeTexts {D : List Frag} (hD : DB D) : dbStr (mergeTexts D) = dbStr D := by
  fun_induction mergeTexts D with
  | case1 a c rest ih =>
    simpa [dbStr, fragOut, String.append_assoc] using ih (db_cons.mpr ⟨rfl, (db_cons.mp (db_cons.mp hD).2).2⟩)
  | case2 => cases (db_cons.mp hD).1
  | case3 f rest _ _ ih => rw [dbStr, dbStr, ih (db_cons.mp hD).2]
  | case4 => rfl

theorem wsdel_applyTrims (M : List Frag) : WsDel (dbStr (applyTrims M)).toList (dbStr M).toList := by
  fun_induction applyTrims M with
  | case1 t lt rt a rest ih =>
    simp only [dbStr, String.toList_append] at ih ⊢
    refine WsDel.append ?_ ih
    cases lt
    · exact WsDel.refl _
    · exact wsdel_trimRight t
  | case2 lt a t rest ih =>
    simp only [dbStr, String.toList_append] at ih ⊢
    exact WsDel.append (WsDel.refl _) (ih.trans (WsDel.append (wsdel_trimLeft t) (WsDel.refl _)))
  | case3 f rest _ _ ih =>
    simp only [dbStr, String.toList_append]
    exact WsDel.append (WsDel.refl _) ih
  | case4 => exact .nil

/-- the first text run of a list (all text in front of the first action, concatenated) and, for every action, its left-trim flag -
on a debug list: whether it is a separator - and the text run behind it -/
def runs : List Frag → String × List (Bool × String)
  | [] => ("", [])
  | .text t :: r => ((t ++ (runs r).1), (runs r).2)
  | .act lt _ _ :: r => ("", (lt, (runs r).1) :: (runs r).2)
  | .blockDef _ _ :: r => runs r

def trimLeftIf (b : Bool) (s : String) : String := if b then trimLeftWs s else s
def trimRightIf (b : Bool) (s : String) : String := if b then trimRightWs s else s

/-- is the first action a separator? -/
def nextSep : List (Bool × String) → Bool
  | [] => false
  | (s, _) :: _ => s

/-- what the trimmed list prints: every run left-trimmed behind a separator and right-trimmed in front of one; a separator prints
nothing, the other action `{`. `outR b t R`: the run `t` stands behind a separator iff `b`; `R`: the actions and runs still to come -/
def outR : Bool → String → List (Bool × String) → String
  | b, t, [] => trimLeftIf b t
  | b, t, (s, u) :: more => trimRightIf s (trimLeftIf b t) ++ (if s then "" else "{") ++ outR s u more

theorem trimLeft_empty : trimLeftWs "" = "" := by decide
theorem trimRight_empty : trimRightWs "" = "" := by decide

/-! ## merging + trimming computes `outR (runs …)`

The induction follows `mergeTexts` and is generalised over `b`, "the action in front right-trims": that is what a separator
hands on to the run behind it (`trimHeadIf b`, `trimLeftIf b`). -/

def trimHeadIf : Bool → List Frag → List Frag
  | true, l => trimHead l
  | false, l => l

theorem trimHeadIf_false (l : List Frag) : trimHeadIf false l = l := rfl
theorem trimHeadIf_true (l : List Frag) : trimHeadIf true l = trimHead l := rfl

theorem trimHeadIf_text (b : Bool) (t : String) (r : List Frag) : trimHeadIf b (.text t :: r) = .text (trimLeftIf b t) :: r := by
  cases b <;> rfl

theorem trimHeadIf_act (b lt rt : Bool) (a : Act) (r : List Frag) : trimHeadIf b (.act lt rt a :: r) = .act lt rt a :: r := by
  cases b <;> rfl

theorem run_out {D : List Frag} (hD : DB D) (b : Bool) :
    dbStr (applyTrims (trimHeadIf b (mergeTexts D))) = outR b (runs D).1 (runs D).2 := by
  fun_induction mergeTexts D generalizing b with
  | case1 a c rest ih =>
    simpa [runs, String.append_assoc] using ih (db_cons.mpr ⟨rfl, (db_cons.mp (db_cons.mp hD).2).2⟩) b
  | case2 => cases (db_cons.mp hD).1
  | case3 f rest h1 _ ih =>
    have ih := ih (db_cons.mp hD).2
    rcases db_cases (db_cons.mp hD).1 with ⟨a, rfl⟩ | rfl | rfl
    · -- a text run ends here: at the end of the list, or in front of an action that right-trims it if it is a separator
      cases rest with
      | nil => simp [mergeTexts, trimHeadIf_text, applyTrims, dbStr, fragOut, runs, outR]
      | cons g rest' =>
        cases g with
        | text c => exact absurd rfl (h1 a c rest' rfl)
        | blockDef => cases (db_cons.mp (db_cons.mp hD).2).1
        | act lt rt x =>
          have ih := ih false
          rw [mergeTexts_act, trimHeadIf_act] at ih
          cases lt <;> simp [mergeTexts_act, trimHeadIf_text, applyTrims_text_act, dbStr, fragOut, runs, outR, ih, trimLeftIf, trimRightIf,
            trimRight_empty, String.append_assoc]
    · simpa [lbraceAct, trimHeadIf_act, trimHeadIf_false, applyTrims_noRtrim, dbStr, fragOut, runs, outR, trimLeftIf, trimRightIf, trimLeft_empty]
        using ih false
    · simpa [sepAct, trimHeadIf_act, trimHeadIf_true, applyTrims_rtrim, dbStr, fragOut, runs, outR, trimLeftIf, trimRightIf, trimLeft_empty,
        trimRight_empty] using ih true
  | case4 => cases b <;> simp [trimHeadIf, trimHead, applyTrims, dbStr, runs, outR, trimLeftIf, trimLeft_empty]

/-- a debug list and the same list with BARE separators (their blanks and line break left out) -/
inductive Rel2 : List Frag → List Frag → Prop
  | nil : Rel2 [] []
  | text (t : String) {d d' : List Frag} : Rel2 d d' → Rel2 (.text t :: d) (.text t :: d')
  | lb {d d' : List Frag} : Rel2 d d' →
      Rel2 (.act false false (.print (.lit (.str "{")) false) :: d) (.act false false (.print (.lit (.str "{")) false) :: d')
  | sep {d d' : List Frag} : Rel2 d d' → Rel2 (debugSep ++ d) (.act true true (.print (.lit (.str "")) false) :: d')

theorem Rel2.append {a a' b b' : List Frag} (h1 : Rel2 a a') (h2 : Rel2 b b') : Rel2 (a ++ b) (a' ++ b') := by
  induction h1 with
  | nil => simpa using h2
  | text t _ ih => exact .text t ih
  | lb _ ih => exact .lb ih
  | sep _ ih => simpa using Rel2.sep ih

theorem dropWhile_reverse_append_ws (w : List Char) (hw : ∀ c ∈ w, isWs c = true) (l : List Char) :
    (((l ++ w).dropWhile isWs).reverse).dropWhile isWs = ((l.dropWhile isWs).reverse).dropWhile isWs := by
  -- either `l` is all white space, and both sides are empty, or `w` stands in front once the rest is reversed, and is dropped
  rw [List.dropWhile_append]
  split
  · next h =>
    have : w.dropWhile isWs = [] := by simpa using List.dropWhile_append_of_pos (l₂ := []) hw
    rw [this, List.isEmpty_iff.mp h]
  · rw [List.reverse_append, List.dropWhile_append_of_pos (by simpa using hw)]

/-! A block of white space `w` next to a trim marker is trimmed away with the text it borders: the separator's `"     "` in front of
its action and `"\n"` behind it are instances. -/
section
variable {w : String} (hw : ∀ c ∈ w.toList, isWs c = true)
include hw

theorem trimLeft_ws_append (b : String) : trimLeftWs (w ++ b) = trimLeftWs b := by
  simp only [trimLeftWs, String.toList_append, List.dropWhile_append_of_pos hw]

theorem trimRight_append_ws (a : String) : trimRightWs (a ++ w) = trimRightWs a := by
  have hr : ∀ c ∈ w.toList.reverse, isWs c = true := by simpa using hw
  simp only [trimRightWs, String.toList_append, List.reverse_append, List.dropWhile_append_of_pos hr]

theorem trimRight_trimLeftIf_append_ws (b : Bool) (t : String) :
    trimRightWs (trimLeftIf b (t ++ w)) = trimRightWs (trimLeftIf b t) := by
  cases b
  · exact trimRight_append_ws hw t
  · simp only [trimLeftIf, if_true, trimRightWs, trimLeftWs, String.toList_ofList, String.toList_append]
    rw [dropWhile_reverse_append_ws w.toList hw t.toList]

theorem outR_ws_append (u : String) (R : List (Bool × String)) : outR true (w ++ u) R = outR true u R := by
  cases R <;> simp [outR, trimLeftIf, trimLeft_ws_append hw]

end

theorem rel2_out {d d' : List Frag} (h : Rel2 d d') (t : String) (b : Bool) :
    outR b (t ++ (runs d).1) (runs d).2 = outR b (t ++ (runs d').1) (runs d').2 := by
  induction h generalizing t b with
  | nil => rfl
  | text u _ ih =>
    simpa [runs, String.append_assoc] using ih (t ++ u) b
  | lb _ ih =>
    simpa [runs, outR] using ih "" false
  | sep _ ih =>
    simp only [debugSep, List.cons_append, runs, outR, String.append_empty, trimRightIf]
    rw [trimRight_trimLeftIf_append_ws (by decide), outR_ws_append (by decide)]
    simpa using ih "" true

theorem rel2_db {d d' : List Frag} (h : Rel2 d d') : DB d ∧ DB d' := by
  induction h with
  | nil => exact ⟨nofun, nofun⟩
  | text t _ ih | lb _ ih => exact ⟨db_cons.mpr ⟨rfl, ih.1⟩, db_cons.mpr ⟨rfl, ih.2⟩⟩
  | sep _ ih => exact ⟨db_append (db_cons.mpr ⟨rfl, db_cons.mpr ⟨rfl, db_cons.mpr ⟨rfl, nofun⟩⟩⟩) ih.1, db_cons.mpr ⟨rfl, ih.2⟩⟩

theorem debugInv : FragInv true fun d s => ∃ d', Rel2 d d' ∧ dbStr d' = s where
  nil := ⟨[], .nil, rfl⟩
  append := fun ⟨a', r1, e1⟩ ⟨b', r2, e2⟩ => ⟨a' ++ b', r1.append r2, by rw [dbStr_append, e1, e2]⟩
  text s := ⟨_, .text s .nil, by simp [dbStr, fragOut]⟩
  lbrace := ⟨_, .lb .nil, rfl⟩
  sep _ := ⟨[sepAct], by simpa [sepAct] using Rel2.sep .nil, rfl⟩

/-- what the debug-mode pipeline prints is the reference serialisation with white space deleted: it is what the bare-separator
form `d'` prints after merging and trimming, and `d'` itself prints the serialisation -/
theorem debug_out_wsdel (env : CEnv) (hd : env.debug = true) (doc : List Node) (h : staticListF nodeFuel doc = true) :
    ∃ frags, compileNodes env doc = .ok frags ∧ DB frags ∧
      WsDel (dbStr (applyTrims (mergeTexts frags))).toList (serListF nodeFuel doc).toList := by
  obtain ⟨d, c1, d', r, s'⟩ := (compile_static_inv (hd ▸ debugInv) nodeFuel).2 doc h
  have ⟨db, db'⟩ := rel2_db r
  refine ⟨d, c1, db, ?_⟩
  have h1 := run_out db false
  have h1' := run_out db' false
  have h2 := rel2_out r "" false
  simp only [trimHeadIf_false, String.empty_append] at h1 h1' h2
  rw [h1, h2, ← h1', ← s', ← dbStr_mergeTexts db']
  exact wsdel_applyTrims _

end Pug.Props.C13D
