import PugProofs.C06.Static
/-!
Debug (pretty-source) mode on static documents: the transpiler inserts the separator `     {{- "" -}}⏎` after block-level
nodes, so the fragment lists hold, besides text and `{{"{"}}`, the separator's action (`DB`); what such a list prints (`dbStr`).
-/
namespace Pug.Props.C13S
open Pug Pug.Tpl Pug.Props.C06S

def stripWs (s : String) : String := String.ofList (s.toList.filter fun c => !isWs c)

theorem stripWs_empty : stripWs "" = "" := rfl

def sepAct : Frag := .act true true (.print (.lit (.str "")) false)

/-- text, the action `{{"{"}}`, or the separator's action -/
def dbB : Frag → Bool
  | .text _ => true
  | .act false false (.print (.lit (.str "{")) false) => true
  | .act true true (.print (.lit (.str "")) false) => true
  | _ => false

def DB (fs : List Frag) : Prop := ∀ f ∈ fs, dbB f = true

theorem db_cons {f : Frag} {fs : List Frag} : DB (f :: fs) ↔ dbB f = true ∧ DB fs := List.forall_mem_cons

theorem db_append {a b : List Frag} (ha : DB a) (hb : DB b) : DB (a ++ b) :=
  List.forall_mem_append.mpr ⟨ha, hb⟩

/-- what a fragment prints (the separator's action prints nothing) -/
def fragOut : Frag → String
  | .text s => s
  | .act true true _ => ""
  | _ => "{"

def dbStr : List Frag → String
  | [] => ""
  | f :: fs => fragOut f ++ dbStr fs

theorem dbStr_append (a b : List Frag) : dbStr (a ++ b) = dbStr a ++ dbStr b := by
  induction a with
  | nil => simp [dbStr]
  | cons f fs ih => simp [dbStr, ih, String.append_assoc]

theorem db_cases {f : Frag} (h : dbB f = true) : (∃ s, f = .text s) ∨ f = lbraceAct ∨ f = sepAct := by
  unfold dbB at h
  split at h <;> simp_all [lbraceAct, sepAct]

theorem db_of_plain {fs : List Frag} (h : Plain fs) : DB fs ∧ dbStr fs = fragsStr fs := by
  induction fs with
  | nil => exact ⟨by simp [DB], rfl⟩
  | cons f rest ih =>
    have ⟨i1, i2⟩ := ih (plain_cons.mp h).2
    rcases plain_cases (plain_cons.mp h).1 with ⟨s, rfl⟩ | rfl <;>
      exact ⟨db_cons.mpr ⟨rfl, i1⟩, by simp [dbStr, fragsStr, fragOut, fragStr, i2, lbraceAct]⟩

theorem db_flat {fs : List Frag} (h : DB fs) : ∀ f ∈ fs, f.flat = true := fun f hf => by
  rcases db_cases (h f hf) with ⟨s, rfl⟩ | rfl | rfl <;> rfl

theorem prints_db (env : Tpl.Env) (S : St → Prop) : ∀ {fs : List Frag}, DB fs → Prints env 2 S fs (dbStr fs)
  | [], _ => .nil
  | f :: fs, h => by
    have ih := prints_db env S (db_cons.mp h).2
    rcases db_cases (db_cons.mp h).1 with ⟨s, rfl⟩ | rfl | rfl
    · exact ih.text s
    · exact ih.lit false false "{" (Nat.le_refl 2)
    · exact ih.lit true true "" (Nat.le_refl 2)

end Pug.Props.C13S
