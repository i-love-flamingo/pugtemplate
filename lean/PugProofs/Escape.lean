import PugModel.Basic.Html
/-!
Escaping with a replacement table leaves no character of a set `bad` behind, provided no replacement text holds one and every
bad character is a key of the table. The table and the set are variables: the three escapers of the development (text,
attribute values, stripped markup) are instances, each with two finite checks.
-/
namespace Pug

theorem escChar_safe {tbl : List (Char × String)} {bad : Char → Bool}
    (hrepl : ∀ p ∈ tbl, ∀ d ∈ p.2.toList, bad d = false)
    (hkeys : ∀ c, bad c = true → (tbl.find? (·.1 == c)).isSome = true) (c : Char) :
    ∀ d ∈ escChar tbl c, bad d = false := by
  unfold escChar
  cases h : tbl.find? (·.1 == c) with
  | some p => exact hrepl p (List.mem_of_find?_eq_some h)
  | none =>
    -- `c` is copied: were it bad, it would be a key
    intro d hd
    obtain rfl : d = c := by simpa using hd
    cases hb : bad d with
    | false => rfl
    | true => have := hkeys d hb; rw [h] at this; cases this

theorem escapeWith_safe {tbl : List (Char × String)} {bad : Char → Bool}
    (hrepl : ∀ p ∈ tbl, ∀ d ∈ p.2.toList, bad d = false)
    (hkeys : ∀ c, bad c = true → (tbl.find? (·.1 == c)).isSome = true) (s : List Char) :
    ∀ d ∈ escapeWith tbl s, bad d = false := by
  intro d hd
  obtain ⟨c, _, hc⟩ := List.mem_flatMap.1 hd
  exact escChar_safe hrepl hkeys c d hc

/-- `<`, `>`, `"`, `'` end a text run or an attribute value. The properties' predicates for them (`C04.significant`, `C05.sig`,
`C14.sig`) unfold to the test below, so this is the second hypothesis of `escapeWith_safe` for each, from a finite check. -/
theorem markup_isKey {tbl : List (Char × String)}
    (h : ∀ c ∈ ['<', '>', '"', '\''], (tbl.find? (·.1 == c)).isSome = true) (c : Char)
    (hc : (c == '<' || c == '>' || c == '"' || c == '\'') = true) : (tbl.find? (·.1 == c)).isSome = true := by
  simp only [Bool.or_eq_true, beq_iff_eq] at hc
  rcases hc with ((rfl | rfl) | rfl) | rfl <;> exact h _ (by simp)

/-- two tables escape alike as soon as they answer alike every key that either of them has: a finite check -/
theorem escapeWith_congr {t1 t2 : List (Char × String)}
    (h : ∀ c ∈ (t1 ++ t2).map (·.1), t1.find? (·.1 == c) = t2.find? (·.1 == c)) (s : List Char) :
    escapeWith t1 s = escapeWith t2 s := by
  suffices hf : escChar t1 = escChar t2 by rw [escapeWith, hf]; rfl
  funext c
  unfold escChar
  by_cases hc : c ∈ (t1 ++ t2).map (·.1)
  · rw [h c hc]
  · -- no key of either table: found in neither
    have hn (t) (ht : t ⊆ t1 ++ t2) : t.find? (·.1 == c) = none :=
      List.find?_eq_none.mpr fun p hp hpc => hc (List.mem_map.mpr ⟨p, ht hp, eq_of_beq hpc⟩)
    rw [hn t1 (List.subset_append_left ..), hn t2 (List.subset_append_right ..)]

end Pug
