import PugModel.Gen.Types
/-!
Lifting a check over the (finitely many) valuations of the atoms a guarded-return program mentions to ALL valuations.
-/
namespace Pug.Gen

theorem GCond.eval_congr (c : GCond) (v w : String → Bool) (h : ∀ a ∈ c.atoms, v a = w a) : c.eval v = c.eval w := by
  induction c with
  | atom a => exact h a (List.mem_singleton_self a)
  | not c ih => simp only [GCond.eval]; rw [ih h]
  | and a b iha ihb | or a b iha ihb =>
    simp only [GCond.eval]
    rw [iha fun x hx => h x (List.mem_append_left _ hx), ihb fun x hx => h x (List.mem_append_right _ hx)]
  | tt => rfl

theorem GStmt.run_congr (p : List GStmt) (v w : String → Bool) (done : List String)
    (h : ∀ a ∈ GStmt.atoms p, v a = w a) : GStmt.run v p done = GStmt.run w p done := by
  induction p generalizing done with
  | nil => rfl
  | cons s rest ih =>
    cases s with
    | act n => exact ih _ h
    | retIf c out =>
      simp only [GStmt.run]
      rw [GCond.eval_congr c v w fun a ha => h a (List.mem_append_left _ ha), ih _ fun a ha => h a (List.mem_append_right _ ha)]
    | ret out => rfl

theorem mem_allBits (bits : List Bool) : bits ∈ allBits bits.length := by
  induction bits with
  | nil => simp [allBits]
  | cons b rest ih =>
    simp only [allBits, List.length_cons, List.mem_flatMap]
    exact ⟨rest, ih, by cases b <;> simp⟩

theorem valOf_map (as : List String) (v : String → Bool) (a : String) (ha : a ∈ as) : valOf as (as.map v) a = v a := by
  unfold valOf
  induction as with
  | nil => cases ha
  | cons x rest ih =>
    simp only [List.map_cons, List.zip_cons_cons, List.lookup_cons]
    by_cases hx : a = x
    · subst hx; simp
    · simp only [beq_false_of_ne hx]
      exact ih ((List.mem_cons.mp ha).resolve_left hx)

/-- a Boolean check `P` that depends on the valuation only through the atoms `as` holds for EVERY valuation as soon as it
holds for the `2 ^ n` valuations over the `n` distinct atoms among `as` -/
theorem forall_vals (as : List String) (P : (String → Bool) → Bool)
    (hP : ∀ v w : String → Bool, (∀ a ∈ as, v a = w a) → P v = P w)
    (h : (allBits as.eraseDups.length).all (fun b => P (valOf as.eraseDups b)) = true) (v : String → Bool) : P v = true := by
  have hb : as.eraseDups.map v ∈ allBits as.eraseDups.length := by simpa using mem_allBits (as.eraseDups.map v)
  rw [← List.all_eq_true.mp h _ hb]
  exact hP v _ fun a ha => (valOf_map _ v a (List.mem_eraseDups.mpr ha)).symm

end Pug.Gen
