import PugModel.Data.JsonDecode
import PugProofs.C12.Str
/-!
Value level: for EVERY heap value the model's `json.Marshal` produces a text that is derivable in the JSON grammar (RFC 8259,
no insignificant white space) FOR the value the model's own traversal reads from the heap - arrays element by element, objects
member by member in the encoder's key order, every string (values and keys) decoding back to exactly its characters.
-/
namespace Pug.Props.C12V
open Pug Pug.Tpl Pug.Data

/-- JSON values; a number is kept as its text -/
inductive J where
  | null
  | bool (b : Bool)
  | num (text : String)
  | str (s : List Char)
  | arr (items : List J)
  | obj (members : List (List Char × J))

/-! the grammar, as relations between a text and the value it denotes -/
mutual
inductive IsJson : List Char → J → Prop
  | null : IsJson "null".toList .null
  | tt : IsJson "true".toList (.bool true)
  | ff : IsJson "false".toList (.bool false)
  | num (t : String) : IsJson t.toList (.num t)
  | str (body s : List Char) : decodeBody body = some s → IsJson ('"' :: body ++ ['"']) (.str s)
  | arr0 : IsJson "[]".toList (.arr [])
  | arr {cs : List Char} {js : List J} : IsElems cs js → IsJson ('[' :: cs ++ [']']) (.arr js)
  | obj0 : IsJson "{}".toList (.obj [])
  | obj {cs : List Char} {ms : List (List Char × J)} : IsMembers cs ms → IsJson ('{' :: cs ++ ['}']) (.obj ms)
inductive IsElems : List Char → List J → Prop
  | one {c : List Char} {j : J} : IsJson c j → IsElems c [j]
  | cons {c cs : List Char} {j : J} {js : List J} : IsJson c j → IsElems cs js → IsElems (c ++ ',' :: cs) (j :: js)
inductive IsMembers : List Char → List (List Char × J) → Prop
  | one {kb k c : List Char} {j : J} : decodeBody kb = some k → IsJson c j → IsMembers ('"' :: kb ++ '"' :: ':' :: c) [(k, j)]
  | cons {kb k c cs : List Char} {j : J} {ms : List (List Char × J)} : decodeBody kb = some k → IsJson c j → IsMembers cs ms →
      IsMembers (('"' :: kb ++ '"' :: ':' :: c) ++ ',' :: cs) ((k, j) :: ms)
end

/-- the value the model reads from the heap (the traversal `marshal` makes, building the tree instead of the text) -/
def valOf (h : Heap) : Nat → Val → Option J
  | 0, _ => none
  | fuel + 1, v =>
    match v with
    | .nil => some .null
    | .invalid => some .null
    | .B b => some (.bool b)
    | .bool b => some (.bool b)
    | .N q => (jsonNum q).map .num
    | .flt q => (jsonNum q).map .num
    | .int i => some (.num (toString i))
    | .S s => some (.str s.toList)
    | .str s => some (.str s.toList)
    | .host _ => some (.obj [])
    | .attrs _ => none
    | .bblock _ => none
    | .arr a => ((h.getArr a).mapM (valOf h fuel)).map .arr
    | .map a =>
      let m := h.getMap a
      let items := m.items.map fun (k, v) => (lowerFirst k, v)
      let keys := sortKeys (items.map (·.1))
      (keys.mapM (fun k => match assocGet items.reverse k with
          | some v => (valOf h fuel v).map (fun j => (k.toList, j))
          | none => none)).map .obj

open Pug.Props.C12S

theorem jsonString_toList (s : String) : (jsonString s).toList = '"' :: s.toList.flatMap jsonEscChar ++ ['"'] := by
  simp [jsonString, jsonStringChars]

theorem intercalate_toList (p q : String) (r : List String) :
    (",".intercalate (p :: q :: r)).toList = p.toList ++ ',' :: (",".intercalate (q :: r)).toList := by
  simp

theorem isJson_string (s : String) : IsJson (jsonString s).toList (.str s.toList) := by
  rw [jsonString_toList]
  exact .str _ _ (string_roundtrip s.toList)

/-- element texts and the values they denote, pairwise -/
inductive Pairs {β : Type} (R : String → β → Prop) : List String → List β → Prop
  | nil : Pairs R [] []
  | cons {p : String} {y : β} {ps : List String} {ys : List β} : R p y → Pairs R ps ys → Pairs R (p :: ps) (y :: ys)

theorem mapM_pairs {α β : Type} (f : α → Option String) (g : α → Option β) (R : String → β → Prop)
    (H : ∀ x s, f x = some s → ∃ y, g x = some y ∧ R s y) :
    ∀ (l : List α) (parts : List String), l.mapM f = some parts → ∃ ys, l.mapM g = some ys ∧ Pairs R parts ys := by
  intro l
  induction l with
  | nil => intro parts h; cases h; exact ⟨[], rfl, .nil⟩
  | cons x rest ih =>
    intro parts h
    simp only [List.mapM_cons, Option.bind_eq_bind, Option.bind_eq_some_iff, Option.pure_def, Option.some.injEq] at h
    obtain ⟨sx, hx, ps, hr, rfl⟩ := h
    obtain ⟨y, gy, ry⟩ := H x sx hx
    obtain ⟨ys, gys, rys⟩ := ih ps hr
    exact ⟨y :: ys, by simp [gy, gys], .cons ry rys⟩

/-- the parts joined by commas are a non-empty separated list, in any list grammar `S` that has the two rules of `IsElems` and
`IsMembers`: a single item, and an item, a comma, a list -/
theorem joined_of_pairs {β : Type} {R : String → β → Prop} {S : List Char → List β → Prop}
    (one : ∀ {p y}, R p y → S p.toList [y])
    (cons : ∀ {p y cs ys}, R p y → S cs ys → S (p.toList ++ ',' :: cs) (y :: ys))
    {parts : List String} {ys : List β} (h : Pairs R parts ys) : parts ≠ [] → S (",".intercalate parts).toList ys := by
  induction h with
  | nil => exact fun h => absurd rfl h
  | cons h1 h2 ih =>
    intro _
    cases h2 with
    | nil => simpa using one h1
    | cons h2 h3 => rw [intercalate_toList]; exact cons h1 (ih (by simp))

theorem isJson_array {parts : List String} {js : List J} (h : Pairs (fun s j => IsJson s.toList j) parts js) :
    IsJson ("[" ++ ",".intercalate parts ++ "]").toList (.arr js) := by
  cases parts with
  | nil => cases h; exact .arr0
  | cons p rest => simpa using IsJson.arr (joined_of_pairs .one .cons h (by simp))

/-- a member text `"key":value` and the member it denotes -/
def MemR (s : String) (m : List Char × J) : Prop :=
  ∃ kb c, s.toList = '"' :: kb ++ '"' :: ':' :: c ∧ decodeBody kb = some m.1 ∧ IsJson c m.2

theorem isJson_object {parts : List String} {ms : List (List Char × J)} (h : Pairs MemR parts ms) :
    IsJson ("{" ++ ",".intercalate parts ++ "}").toList (.obj ms) := by
  cases parts with
  | nil => cases h; exact .obj0
  | cons p rest =>
    have hms : IsMembers (",".intercalate (p :: rest)).toList ms :=
      joined_of_pairs (fun ⟨_, _, e, hk, hc⟩ => by rw [e]; exact .one hk hc)
        (fun ⟨_, _, e, hk, hc⟩ hs => by rw [e]; exact .cons hk hc hs) h (by simp)
    simpa using IsJson.obj hms

/-! ## the two container cases of the encoder, and of the reading, in the same shape -/

def mapItems (h : Heap) (a : Nat) : List (String × Val) := (h.getMap a).items.map fun (k, v) => (lowerFirst k, v)

def memText (h : Heap) (fuel : Nat) (items : List (String × Val)) (k : String) : Option String :=
  match assocGet items.reverse k with
  | some v => (marshal h fuel v).map (fun s => jsonString k ++ ":" ++ s)
  | none => none

def memVal (h : Heap) (fuel : Nat) (items : List (String × Val)) (k : String) : Option (List Char × J) :=
  match assocGet items.reverse k with
  | some v => (valOf h fuel v).map (fun j => (k.toList, j))
  | none => none

theorem marshal_map (h : Heap) (fuel : Nat) (a : Nat) :
    marshal h (fuel + 1) (.map a) =
      match (sortKeys ((mapItems h a).map (·.1))).mapM (memText h fuel (mapItems h a)) with
      | none => none
      | some parts => some ("{" ++ ",".intercalate parts ++ "}") := rfl

theorem valOf_map (h : Heap) (fuel : Nat) (a : Nat) :
    valOf h (fuel + 1) (.map a) =
      ((sortKeys ((mapItems h a).map (·.1))).mapM (memVal h fuel (mapItems h a))).map .obj := rfl

theorem member_valid {h : Heap} {fuel : Nat}
    (ih : ∀ v s, marshal h fuel v = some s → ∃ j, valOf h fuel v = some j ∧ IsJson s.toList j)
    (items : List (String × Val)) (k s : String) (hk : memText h fuel items k = some s) :
    ∃ m, memVal h fuel items k = some m ∧ MemR s m := by
  unfold memText at hk
  split at hk
  · rename_i v hv
    obtain ⟨c, hc, rfl⟩ := Option.map_eq_some_iff.1 hk
    obtain ⟨j, j1, j2⟩ := ih v c hc
    refine ⟨(k.toList, j), by simp [memVal, hv, j1], _, _, ?_, string_roundtrip k.toList, j2⟩
    simp [jsonString_toList]
  · cases hk

theorem marshal_valid : ∀ (fuel : Nat) (h : Heap) (v : Val) (s : String), marshal h fuel v = some s →
    ∃ j, valOf h fuel v = some j ∧ IsJson s.toList j := by
  intro fuel
  induction fuel with
  | zero => intro h v s hm; simp [marshal] at hm
  | succ fuel ih =>
    intro h v s hm
    cases v with
    | nil | invalid => simp [marshal] at hm; subst hm; exact ⟨.null, rfl, .null⟩
    | B b | bool b =>
      simp [marshal] at hm; subst hm
      cases b
      · exact ⟨.bool false, rfl, .ff⟩
      · exact ⟨.bool true, rfl, .tt⟩
    | N q | flt q => simp only [marshal] at hm; exact ⟨.num s, by simp [valOf, hm], .num s⟩
    | int i => simp [marshal] at hm; subst hm; exact ⟨.num (toString i), rfl, .num _⟩
    | S t | str t => simp [marshal] at hm; subst hm; exact ⟨.str t.toList, rfl, isJson_string t⟩
    | host n => simp [marshal] at hm; subst hm; exact ⟨.obj [], rfl, .obj0⟩
    | attrs l | bblock n => simp [marshal] at hm
    | arr a =>
      simp only [marshal] at hm
      split at hm
      · cases hm
      · rename_i parts hp
        cases hm
        obtain ⟨js, g1, g2⟩ := mapM_pairs _ (valOf h fuel) (fun s j => IsJson s.toList j) (ih h) _ parts hp
        exact ⟨.arr js, by simp [valOf, g1], isJson_array g2⟩
    | map a =>
      rw [marshal_map] at hm
      split at hm
      · cases hm
      · rename_i parts hp
        cases hm
        obtain ⟨ms, g1, g2⟩ := mapM_pairs _ (memVal h fuel (mapItems h a)) MemR (member_valid (ih h) _) _ parts hp
        exact ⟨.obj ms, by simp [valOf_map, g1], isJson_object g2⟩

end Pug.Props.C12V
