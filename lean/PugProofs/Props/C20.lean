import PugModel.Tpl.Exec
import PugModel.JS.HeapSpec
import PugModel.Tpl.Compile
import PugProofs.Tpl.Heap
import PugProofs.Tpl.Builtins
import PugProofs.Fn
/-!
# C20 — array/string methods match their JavaScript namesakes over any call sequence

The model's arrays are heap cells addressed by `Val.arr a`; two variables are aliases iff they hold the same address, so a
mutation through one is visible through every other by construction. Proved for EVERY heap, address, content and argument:
each mutating method changes exactly the receiver's cell to the JavaScript result and leaves every other cell alone
(frame), and `splice` / `slice` return a FRESH cell (no existing variable can alias it) holding the JavaScript result.
Every call sequence of these methods then simulates the ECMAScript store (`C20_sequence`, by composing the one-step facts);
sequences with the other methods (sort, indexOf, join, string methods) are exercised by the correspondence against the
ECMAScript reference `Pug.JS.HeapSpec`.
-/
namespace Pug.Props.C20
open Pug Pug.Tpl Pug.Props.C11P

theorem allocArr_fresh (h : Heap) (l : List Val) : (h.allocArr l).2 = .arr h.arrs.length := rfl

theorem getArr_allocArr_old (h : Heap) (l : List Val) (b : Nat) (hb : b < h.arrs.length) :
    (h.allocArr l).1.getArr b = h.getArr b := (ext_allocArr h l).getArr b hb

/-! ## one step of each mutating method -/

def run {α} (m : M α) (st : St) : Except Err (α × St) := m st

theorem C20_push (a : Nat) (w : Val) (st : St) :
    callArrayMethod a "push" [w] st = .ok (.nil, { st with heap := st.heap.setArr a (st.heap.getArr a ++ [w]) }) := by
  simp [callArrayMethod]

theorem C20_unshift (a : Nat) (ws : List Val) (st : St) :
    callArrayMethod a "unshift" ws st =
      .ok (.N ((ws.length + (st.heap.getArr a).length : Nat) : Rat),
           { st with heap := st.heap.setArr a (ws ++ st.heap.getArr a) }) := by
  simp [callArrayMethod]

theorem C20_pop (a : Nat) (st : St) (init : List Val) (last : Val) (hl : st.heap.getArr a = init ++ [last]) :
    callArrayMethod a "pop" [] st = .ok (last, { st with heap := st.heap.setArr a init }) := by
  simp [callArrayMethod, hl]

theorem C20_shift (a : Nat) (st : St) (first : Val) (rest : List Val) (hl : st.heap.getArr a = first :: rest) :
    callArrayMethod a "shift" [] st = .ok (first, { st with heap := st.heap.setArr a rest }) := by
  simp [callArrayMethod, hl]

theorem ratTrunc_nat (k : Nat) : Fn.ratTrunc ((k : Nat) : Rat) = (k : Int) := Fn.ratTrunc_intCast k

/-- **C20 (splice(start)).** The receiver keeps the first `k` elements; the result is a FRESH array (address = old heap
size, so no existing variable refers to it) holding the removed tail. -/
theorem C20_splice (a k : Nat) (st : St) (hk : k ≤ (st.heap.getArr a).length) :
    callArrayMethod a "splice" [.N (k : Nat)] st =
      .ok (.arr st.heap.arrs.length,
           { st with heap := (st.heap.allocArr ((st.heap.getArr a).drop k)).1.setArr a ((st.heap.getArr a).take k) }) := by
  simp [callArrayMethod, ratTrunc_nat, Int.not_ofNat_neg, Nat.not_lt.2 hk, Heap.allocArr]

/-- **C20 (slice(start)).** A fresh array holding the tail; the receiver is untouched. -/
theorem C20_slice (a k : Nat) (st : St) (hk : k ≤ (st.heap.getArr a).length) :
    callArrayMethod a "slice" [.N (k : Nat)] st =
      .ok (.arr st.heap.arrs.length, { st with heap := (st.heap.allocArr ((st.heap.getArr a).drop k)).1 }) := by
  simp [callArrayMethod, ratTrunc_nat, Int.not_ofNat_neg, Nat.not_lt.2 hk]

/-- **C20 (length)** -/
theorem C20_length (a : Nat) (st : St) :
    callArrayMethod a "length" [] st = .ok (.N ((st.heap.getArr a).length : Nat), st) := by
  simp [callArrayMethod]

/-- **C20 (aliases and frame).** After `push` through address `a`: every variable holding `a` sees the new content, every
other array is unchanged. -/
theorem C20_alias_frame (a b : Nat) (w : Val) (st : St) (ha : a < st.heap.arrs.length) :
    ((st.heap.setArr a (st.heap.getArr a ++ [w])).getArr a = st.heap.getArr a ++ [w]) ∧
    (b ≠ a → (st.heap.setArr a (st.heap.getArr a ++ [w])).getArr b = st.heap.getArr b) :=
  ⟨Heap.getArr_setArr_same _ _ _ ha, Heap.getArr_setArr_other _ _ _ _⟩

/-- **C20 (a kept splice result is immune to later pushes on the receiver).** -/
theorem C20_splice_result_stable (a k : Nat) (w : Val) (h : Heap) (ha : a < h.arrs.length) :
    let h1 := (h.allocArr ((h.getArr a).drop k)).1.setArr a ((h.getArr a).take k)
    let h2 := h1.setArr a (h1.getArr a ++ [w])
    h2.getArr h.arrs.length = (h.getArr a).drop k := by
  intro h1 h2
  have hne : h.arrs.length ≠ a := Nat.ne_of_gt ha
  rw [Heap.getArr_setArr_other _ _ _ _ hne, Heap.getArr_setArr_other _ _ _ _ hne, Heap.getArr_allocArr_new]

/-! ## whole call sequences

ECMAScript on a store of arrays (address = index: JavaScript object identity), for the listed methods with in-range
arguments; `none` marks what the property excludes (start beyond the length, `pop` / `shift` of an empty array). The
engine's `callArrayMethod` is run over the same operations. -/

inductive Op where
  | push (a : Nat) (w : Val)
  | unshift (a : Nat) (ws : List Val)
  | pop (a : Nat)
  | shift (a : Nat)
  | splice (a k : Nat)
  | slice (a k : Nat)
  | length (a : Nat)

def jsStep (s : List (List Val)) : Op → Option (Val × List (List Val))
  | .push a w => some (.N (((s.getD a []).length + 1 : Nat) : Rat), s.set a (s.getD a [] ++ [w]))
  | .unshift a ws => some (.N ((ws.length + (s.getD a []).length : Nat) : Rat), s.set a (ws ++ s.getD a []))
  | .pop a =>
    match (s.getD a []).reverse with
    | last :: ri => some (last, s.set a ri.reverse)
    | [] => none
  | .shift a =>
    match s.getD a [] with
    | first :: rest => some (first, s.set a rest)
    | [] => none
  | .splice a k =>
    if k ≤ (s.getD a []).length then some (.arr s.length, (s ++ [(s.getD a []).drop k]).set a ((s.getD a []).take k)) else none
  | .slice a k =>
    if k ≤ (s.getD a []).length then some (.arr s.length, s ++ [(s.getD a []).drop k]) else none
  | .length a => some (.N (((s.getD a []).length : Nat) : Rat), s)

def jsRun : List Op → List (List Val) → Option (List Val × List (List Val))
  | [], s => some ([], s)
  | op :: rest, s =>
    match jsStep s op with
    | none => none
    | some (r, s1) =>
      match jsRun rest s1 with
      | none => none
      | some (rs, s2) => some (r :: rs, s2)

def modelStep (op : Op) : M Val :=
  match op with
  | .push a w => callArrayMethod a "push" [w]
  | .unshift a ws => callArrayMethod a "unshift" ws
  | .pop a => callArrayMethod a "pop" []
  | .shift a => callArrayMethod a "shift" []
  | .splice a k => callArrayMethod a "splice" [.N (k : Nat)]
  | .slice a k => callArrayMethod a "slice" [.N (k : Nat)]
  | .length a => callArrayMethod a "length" []

def modelRun : List Op → St → Except Err (List Val × St)
  | [], st => .ok ([], st)
  | op :: rest, st =>
    match modelStep op st with
    | .error e => .error e
    | .ok (r, st1) =>
      match modelRun rest st1 with
      | .error e => .error e
      | .ok (rs, st2) => .ok (r :: rs, st2)

/-- results agree, except that the engine's `push` returns nothing where JavaScript returns the new length (recorded
deviation: results of `push` are compared on the state only) -/
def agree : List Op → List Val → List Val → Prop
  | [], [], [] => True
  | .push _ _ :: ops, _ :: js, _ :: ms => agree ops js ms
  | _ :: ops, j :: js, m :: ms => j = m ∧ agree ops js ms
  | _, _, _ => False

/-- one step: the engine's method runs, leaves the store JavaScript leaves, and its result may stand in front of any agreeing results -/
theorem step_refines (op : Op) (st : St) (r : Val) (s1 : List (List Val)) (h : jsStep st.heap.arrs op = some (r, s1)) :
    ∃ r' st1, modelStep op st = .ok (r', st1) ∧ st1.heap.arrs = s1 ∧
      ∀ ops rs rs', agree ops rs rs' → agree (op :: ops) (r :: rs) (r' :: rs') := by
  cases op with simp only [jsStep] at h
  | push a w =>
    cases h
    exact ⟨_, _, C20_push a w st, rfl, fun _ _ _ h => h⟩
  | unshift a ws =>
    cases h
    exact ⟨_, _, C20_unshift a ws st, rfl, fun _ _ _ h => ⟨rfl, h⟩⟩
  | pop a =>
    split at h
    · rename_i last ri hrev
      cases h
      exact ⟨_, _, C20_pop a st ri.reverse r (List.reverse_eq_cons_iff.mp hrev), rfl, fun _ _ _ h => ⟨rfl, h⟩⟩
    · cases h
  | shift a =>
    split at h
    · rename_i first rest hl
      cases h
      exact ⟨_, _, C20_shift a st r rest hl, rfl, fun _ _ _ h => ⟨rfl, h⟩⟩
    · cases h
  | splice a k =>
    split at h
    · rename_i hk
      cases h
      exact ⟨_, _, C20_splice a k st hk, rfl, fun _ _ _ h => ⟨rfl, h⟩⟩
    · cases h
  | slice a k =>
    split at h
    · rename_i hk
      cases h
      exact ⟨_, _, C20_slice a k st hk, rfl, fun _ _ _ h => ⟨rfl, h⟩⟩
    · cases h
  | length a =>
    cases h
    exact ⟨_, _, C20_length a st, rfl, fun _ _ _ h => ⟨rfl, h⟩⟩

/-- **C20 (any call sequence).** For EVERY finite sequence of the listed calls with in-range arguments, on EVERY store:
the engine's methods run without error, leave every array (aliases included: the store is addressed by identity) in the
state JavaScript leaves it in, and return JavaScript's results. -/
theorem C20_sequence (ops : List Op) (st : St) (rs : List Val) (s' : List (List Val))
    (h : jsRun ops st.heap.arrs = some (rs, s')) :
    ∃ rs' st', modelRun ops st = .ok (rs', st') ∧ st'.heap.arrs = s' ∧ agree ops rs rs' := by
  induction ops generalizing st rs s' with
  | nil =>
    cases h
    exact ⟨[], st, rfl, rfl, trivial⟩
  | cons op rest ih =>
    simp only [jsRun] at h
    split at h
    · cases h
    · rename_i r s1 hstep
      split at h
      · cases h
      · rename_i rs2 s2 hrest
        cases h
        obtain ⟨r', st1, hm, rfl, hr⟩ := step_refines op st r s1 hstep
        obtain ⟨rs', st', hrun, hs', hag⟩ := ih st1 rs2 s' hrest
        exact ⟨r' :: rs', st', by simp [modelRun, hm, hrun], hs', hr _ _ _ hag⟩

/-- non-vacuity: push through one address, read through the alias (same address), splice, push again -/
example : (jsRun [.push 0 (.N 9), .length 0, .splice 0 1, .push 0 (.N 7), .length 1] [[.N 1, .N 2]]).map (·.2) =
    some [[.N 1, .N 7], [.N 2, .N 9]] := by decide

/-! ## the starting array: a literal has exactly the entries that were written -/

/-- **C20 (the array literal, compile side).** For EVERY array literal - any elements, `null` among them, any nesting - the transpiler
emits ONE call of `__op__array` with exactly one operand per written entry: no entry is dropped or merged (a `null` entry becomes the
operand `null`, it keeps its position). -/
theorem C20_array_literal_keeps_every_entry (fuel : Nat) (env : CEnv) (es : List JS.Expr) (t : Option TExpr)
    (h : compileExprF (fuel + 1) env (.arr es) = .ok t) :
    ∃ ts, t = some (.fcall "__op__array" ts) ∧ ts.length = es.length := by
  rw [compileExprF] at h
  obtain ⟨ts, hts, h⟩ := except_bind_eq_ok h
  cases h
  exact ⟨ts, rfl, mapM_ok_length hts⟩

/-- **C20 (the array literal, run side).** For EVERY operand list and state, `__op__array` allocates ONE new array that holds exactly
the operands (converted, in order, `null` included - so its length is the number of written entries), returns it, and leaves every
other array and map and the rest of the state untouched. -/
theorem C20_array_literal_allocates (items : List Val) (st st' : St) (v : Val)
    (h : callBuiltin "__op__array" items st = .ok (v, st')) :
    v = .arr st.heap.arrs.length ∧ st'.heap.getArr st.heap.arrs.length = items.map convertRaw ∧
    (st'.heap.getArr st.heap.arrs.length).length = items.length ∧
    (∀ a, a < st.heap.arrs.length → st'.heap.getArr a = st.heap.getArr a) ∧
    (∀ a, a < st.heap.maps.length → st'.heap.getMap a = st.heap.getMap a) ∧ st'.vars = st.vars ∧ st'.out = st.out := by
  rw [callBuiltin_array, allocArr_run] at h
  cases h
  have hnew := Heap.getArr_allocArr_new st.heap (items.map convertRaw)
  exact ⟨rfl, hnew, by rw [hnew, List.length_map], getArr_allocArr_old _ _, fun _ _ => rfl, rfl, rfl⟩

/-! non-vacuity: `[true, null, y]` compiles to three operands, the middle one the operand `null` -/
example : ∃ ts, compileExprF 5 { funcs := [], parserFuncs := [] } (.arr [.bool true, .null, .ident "y"]) = .ok (some (.fcall "__op__array" ts)) ∧
    ts.length = 3 := ⟨[.lit (.bool true), nullCall, .var "y"], rfl, rfl⟩

end Pug.Props.C20
