import PugModel.Sys.Conc
import PugModel.Gen.Tables
/-!
# C08 — concurrent renders behave like the same renders run one at a time

* `C08_noninterference`: in ANY system whose threads read a shared environment and write only their own state, after
  ANY schedule every thread is exactly where it would be after the same number of its own steps run alone.
* `C08_render_alone`: instantiated with the Render thread (lookup under the read lock, then execution on a private
  state): for every number of calls, every template set, every data, every schedule - a finished call holds exactly
  the result of the same call run alone, and every call scheduled at least twice is finished.
* the premises of that model - renders write no shared state, the lookup is inside RLock/RUnlock, the function table is
  read under muFuncs, the execution state is a fresh allocation - are regenerated from the Go source on every run
  (`Gen.renderPathWrites` etc.) and checked here by evaluation.

Not modelled: the Go memory model below statement level. The race detector run of the harness is validation for that part.
-/
namespace Pug.Props.C08
open Pug.Sys.Conc

variable {E σ : Type}

theorem iter_succ' (f : σ → σ) (n : Nat) (s : σ) : iter f (n + 1) s = f (iter f n s) := by
  induction n generalizing s with
  | zero => rfl
  | succ n ih => exact ih (f s)

theorem stepAt_get (step : E → σ → σ) (env : E) (cfg : List σ) (i j : Nat) :
    (stepAt step env cfg i)[j]? = if i = j then (cfg[j]?).map (step env) else cfg[j]? := by
  unfold stepAt
  rw [List.getElem?_modify]
  by_cases h : i = j <;> simp [h]

/-- **C08 (non-interference, every schedule).** -/
theorem C08_noninterference (step : E → σ → σ) (env : E) (sched : List Nat) (cfg : List σ) (j : Nat) :
    (run step env sched cfg)[j]? = (cfg[j]?).map (iter (step env) (sched.count j)) := by
  induction sched generalizing cfg with
  | nil => simp [run, iter]
  | cons i rest ih =>
    rw [run, List.foldl_cons, ← run, ih, stepAt_get]
    by_cases h : i = j
    · subst h
      cases cfg[i]? <;> simp [iter]
    · simp [h]

/-- the number of threads never changes -/
theorem C08_length (step : E → σ → σ) (env : E) (sched : List Nat) (cfg : List σ) :
    (run step env sched cfg).length = cfg.length :=
  List.foldlRecOn (motive := fun c : List σ => c.length = cfg.length) sched (stepAt step env) rfl
    fun _ h _ _ => (List.length_modify _ _ _).trans h

/-! ## the render thread -/

variable {T D R : Type}

theorem iter_fixed {f : σ → σ} {s : σ} (h : f s = s) (n : Nat) : iter f n s = s := by
  induction n with
  | zero => rfl
  | succ n ih => rw [iter, h, ih]

theorem renderStep_done (e : Engine T D R) (th : Thread T D R) (r : Res R) (h : th.pc = .done r) :
    renderStep e th = th := by
  simp [renderStep, h]

/-- a call run alone holds no result before its second step (not looked up, looked up) and `renderAlone` from then on, for good -/
theorem result_iter_render (e : Engine T D R) (name : String) (data : D) (n : Nat) :
    result? (iter (renderStep e) n { name := name, data := data, pc := .start }) =
      if 2 ≤ n then some (renderAlone e name data) else none := by
  match n with
  | 0 | 1 => rfl
  | n + 2 =>
    have h2 : (renderStep e (renderStep e { name := name, data := data, pc := .start })).pc
        = .done (renderAlone e name data) := by
      simp only [renderStep, renderAlone]; cases e.templates.lookup name <;> rfl
    show result? (iter (renderStep e) n _) = _
    rw [iter_fixed (renderStep_done e _ _ h2), result?, h2, if_pos (Nat.le_add_left 2 n)]

/-- **C08 (renders).** Any number of calls on one engine, any schedule: whatever result a call holds at any moment is the
result of the same call run alone, and a call scheduled at least twice has finished with exactly that result. -/
theorem C08_render_alone (e : Engine T D R) (calls : List (String × D)) (sched : List Nat) (j : Nat)
    (hj : j < calls.length) :
    ∃ th, (run renderStep e sched (spawn calls))[j]? = some th ∧
      (∀ r, result? th = some r → r = renderAlone e calls[j].1 calls[j].2) ∧
      (2 ≤ sched.count j → result? th = some (renderAlone e calls[j].1 calls[j].2)) := by
  have hs : (spawn (T := T) (R := R) calls)[j]? = some { name := calls[j].1, data := calls[j].2, pc := .start } := by
    rw [spawn, List.getElem?_map, List.getElem?_eq_getElem hj]; rfl
  rw [C08_noninterference, hs]
  refine ⟨_, rfl, ?_⟩
  rw [result_iter_render]
  split
  · exact ⟨fun r h => (Option.some.inj h).symm, fun _ => rfl⟩
  · exact ⟨nofun, fun h => absurd h ‹_›⟩

/-- the order of results does not depend on the schedule: two complete schedules give every caller the same answer -/
theorem C08_schedule_independent (e : Engine T D R) (calls : List (String × D)) (s₁ s₂ : List Nat) (j : Nat)
    (hj : j < calls.length) (h₁ : 2 ≤ s₁.count j) (h₂ : 2 ≤ s₂.count j) :
    ((run renderStep e s₁ (spawn calls))[j]?).bind result? = ((run renderStep e s₂ (spawn calls))[j]?).bind result? := by
  obtain ⟨t₁, e₁, _, c₁⟩ := C08_render_alone e calls s₁ j hj
  obtain ⟨t₂, e₂, _, c₂⟩ := C08_render_alone e calls s₂ j hj
  simp [e₁, e₂, c₁ h₁, c₂ h₂]

/-- non-vacuity: three calls on a two-template engine under an unfair, interleaved schedule -/
example :
    let e : Engine String Nat String := { templates := [("a", "A"), ("b", "B")], exec := fun t d => t ++ toString d }
    ((run renderStep e [2, 0, 2, 1, 0, 1, 1] (spawn [("a", 1), ("zz", 2), ("b", 3)])).map result?) =
      [some (.out "A1"), some .notFound, some (.out "B3")] := by decide +kernel

/-! ## the premises, regenerated from the Go source -/

/-- writes to engine / template / package state in functions a render can reach (reachability by name, an
over-approximation), that are known to touch per-call objects only:
* `Template.copy`, `Template.init` are reached only because `Object.copy()` has the same method name; they write to the
  template allocated in the same call (`nt := New(..)`, `c := new(common)`);
* `newState.tmpl` is a field of the per-render copy of the state made by walkTemplate;
* `rt.M`, `statRateLimitWaitTime.M` build an opencensus measurement value from an immutable measure;
* `loggerInstance.Error` is the injected flamingo logger (its thread safety is part of the trusted base). -/
def perCallWrites : List (String × String) :=
  [("Engine.Render", "call rt.M"), ("Engine.Render", "call statRateLimitWaitTime.M"),
   ("Template.copy", "nt.Tree"), ("Template.copy", "nt.common"), ("Template.copy", "nt.leftDelim"),
   ("Template.copy", "nt.rightDelim"), ("Template.init", "c.execFuncs"), ("Template.init", "c.parseFuncs"),
   ("Template.init", "c.tmpl"), ("Template.init", "t.common"), ("panicOrError", "call loggerInstance.Error"),
   ("state.walkTemplate", "newState.tmpl")]

/-- **C08 (renders write no shared state).** -/
theorem C08_render_path_writes_nothing_shared :
    Gen.renderPathWrites_ok = true ∧ Gen.renderReach_ok = true ∧
    Gen.renderPathWrites.all (fun w => perCallWrites.contains w) = true := by
  refine ⟨rfl, rfl, ?_⟩
  -- an inclusion needs no comparison of different entries: each entry is found where it meets itself (`beq_self_eq_true`), so
  -- no literal is turned into its bytes, which is what evaluating `==` on long strings costs
  simp only [Gen.renderPathWrites, perCallWrites, List.all_cons, List.all_nil, List.contains_cons, beq_self_eq_true,
    Bool.true_or, Bool.or_true, Bool.and_self]

/-- the executor entry points are inside the reachability set the write scan used -/
theorem C08_reach_covers_executor :
    ["Engine.Render", "Template.ExecuteTemplate", "Template.execute", "state.walk", "state.walkTemplate",
     "state.walkRange", "state.evalCall", "state.evalField", "state.findFunction"].all
      (fun f => Gen.renderReach.contains f) = true := by decide +kernel

/-- **C08 (lookup under the read lock; function table under muFuncs; fresh execution state).** The only engine field
Render mentions outside RLock/RUnlock is TemplateCode, on the path taken when ExecuteTemplate RETURNS an error - which it
does only for a name missing from the template's own association table (execution errors panic out of Render). -/
theorem C08_lock_shape :
    Gen.renderLookupLocked = true ∧ Gen.renderLookupLocked_ok = true ∧
    Gen.findFunctionLocked = true ∧ Gen.findFunctionLocked_ok = true ∧
    Gen.execStateFresh = true ∧ Gen.execStateFresh_ok = true ∧
    Gen.renderUnlockedReads.all (fun f => ["e.TemplateCode"].contains f) = true ∧ Gen.renderUnlockedReads_ok = true := by
  decide +kernel

/-- **C08 (template functions read reloaded engine fields under the engine's read lock).** `asset()` reads
`Engine.Webpackserver` and `Engine.Assetrewrites`, which a load (in debug mode: every render) rewrites under the write lock. -/
theorem C08_funcs_read_engine_locked :
    Gen.funcEngineReadsUnlocked = [] ∧ Gen.funcEngineReadsUnlocked_ok = true ∧ Gen.funcEngineReadsLocked_ok = true ∧
    Gen.funcEngineReadsLocked.contains "asset_func.go:Func:Webpackserver" = true ∧
    Gen.funcEngineReadsLocked.contains "asset_func.go:Func:Assetrewrites" = true := by
  refine ⟨rfl, rfl, rfl, ?_⟩
  simp only [Gen.funcEngineReadsLocked, List.contains_cons, beq_self_eq_true, Bool.true_or, Bool.or_true, and_self]

/-- every write to engine / template / package state in package pugjs is in the loader, the compiler front end, a
constructor / option, or is one of the per-call writes above: the full write set, by function -/
def loadTimeFunctions : List String :=
  ["Engine.LoadTemplates", "Engine.compileDir", "Code.Render", "Doctype.Render", "Mixin.renderCall", "Mixin.renderDefinition",
   "Template.AddParseTree", "Template.Clone", "Template.Delims", "Template.associate", "Template.copy", "Template.init",
   "WithRateLimit", "setLoggerInfos"]

theorem C08_write_set_by_function :
    Gen.sharedWrites_ok = true ∧
    Gen.sharedWrites.all (fun w => loadTimeFunctions.contains w.1 || perCallWrites.contains w) = true := by decide +kernel

/-- **C08 (template functions write no package state of the engine) - with ONE recorded exception.** The module's `debug()`
function assigns `pugjs.AllowDeep` (known finding C08-debug-allowdeep: an unsynchronised write during Render, demonstrated by the
race detector). Every other assignment to a package variable of pugjs from a template function fails this theorem. -/
theorem C08_funcs_pkg_writes_only_known :
    Gen.funcPkgWrites_ok = true ∧
    Gen.funcPkgWrites.all (fun w => [("debug_func.go:Func", "pugjs.AllowDeep")].contains w) = true := by
  refine ⟨rfl, ?_⟩
  simp only [Gen.funcPkgWrites, List.all_cons, List.all_nil, List.contains_cons, beq_self_eq_true, Bool.true_or, Bool.and_self]

/-- the package-level variables of the packages a render runs through, as they are known and accounted for: two metric
descriptors and a tag key (opencensus, written by nobody), the logger pair set once at start-up (`setLoggerInfos`), the
constant format of text nodes, reflect's zero Value, the value-function table built once from the builtin table, the
translation trace writer (never assigned), and the `AllowDeep` flag (recorded finding of C08). -/
def knownPkgState : List (String × String) :=
  [("pugjs/engine.go:debugMode", "literal false"), ("pugjs/engine.go:loggerInstance", "zero flamingo.Logger"),
   ("pugjs/engine.go:rt", "call stats.Int64"), ("pugjs/engine.go:statRateLimitWaitTime", "call stats.Float64"),
   ("pugjs/engine.go:templateKey", "call tag.NewKey"), ("pugjs/parse/node.go:textFormat", "literal"),
   ("pugjs/tpl_exec.go:zero", "zero reflect.Value"), ("pugjs/tpl_funcs.go:builtinFuncs", "call createValueFuncs"),
   ("pugjs/transform_js_.go:writeTranslations", "zero io.Writer"), ("pugjs/types.go:AllowDeep", "literal true")]

/-- **C08 (no hidden package state).** The inventory of package-level variables of pugjs, pugjs/parse, templatefunctions and the
module root - regenerated from the Go source on every run, constant tables left out - holds nothing but the known entries: no
cache, pool, memo table, once-guard or flag has been added through which one render (or one process history) could reach
another. (A variable that is added reopens this obligation whatever the generators draw; the write-set theorem above covers
assignments, this one covers state that is changed through method calls such as `sync.Map.Store` or `sync.Pool.Put`.) -/
theorem C08_package_state_inventory :
    Gen.pkgState_ok = true ∧ Gen.pkgState.all (fun v => knownPkgState.contains v) = true := by
  refine ⟨rfl, ?_⟩
  simp only [Gen.pkgState, knownPkgState, List.all_cons, List.all_nil, List.contains_cons, beq_self_eq_true, Bool.true_or,
    Bool.or_true, Bool.and_self]

/-- **C08 (template function objects hold no per-render state).** The objects behind the template functions are built once and
shared by all renders; in no method of package templatefunctions (constructor-time `Inject` aside) is anything assigned that is
reached from the method's receiver - regenerated from the Go source on every run. What a render needs (its context) it gets as an
argument of `Func(ctx)` and keeps in the closure it returns. -/
theorem C08_funcs_keep_no_state_on_receiver : Gen.funcReceiverWrites_ok = true ∧ Gen.funcReceiverWrites = [] :=
  ⟨rfl, rfl⟩

end Pug.Props.C08
