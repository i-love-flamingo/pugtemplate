import PugModel.Strip.Clean
import PugModel.Gen.Tables
import PugProofs.Escape
/-!
# C14 — stripTags emits only allow-listed tags/attributes; all else becomes inert text

Quantified over ALL DOM trees (whatever the HTML5 parser returns: malformed nesting, foreign content, raw-text elements,
comments, doctypes, entity-decoded text) and ALL allow-lists:
* every emitted token is a start/end tag of an allow-listed element carrying only attributes allow-listed for that element,
  or text in which & ' < > " are replaced — there is no comment or declaration token at all (C14_tokens);
* with an empty allow-list the output contains no `<` (C14_empty_allow);
* attribute values cannot break out of their quotes (C14_attr_value_safe).
-/
namespace Pug.Props.C14
open Pug Pug.Strip

def sig (c : Char) : Bool := c == '<' || c == '>' || c == '"' || c == '\''

def TokOk (allow : List AllowedTag) : Tok → Prop
  | .startTag n attrs _ => ∃ tag, lookupTag allow n = some tag ∧ tag.name ≠ "" ∧ ∀ a ∈ attrs, a.1 ∈ tag.attrs
  | .endTag n => ∃ tag, lookupTag allow n = some tag ∧ tag.name ≠ ""
  | .text s => ∀ c ∈ s.toList, sig c = false

/-- escaped text is inert, for every string -/
theorem escape_safe (s : String) : ∀ c ∈ (htmlEscape s).toList, sig c = false := by
  simp only [htmlEscape, escapeHtmlWith, String.toList_ofList]
  exact escapeWith_safe (by decide +kernel) (markup_isKey (by decide +kernel)) s.toList

/-- **what the cleaner can emit**, for any allow-list: escaped text, or the start tag (attributes filtered by the tag's list)
and the end tag of an element whose name the allow-list maps to a tag with a name. Whatever holds of these holds of every
token, by induction on the fuel, simultaneously for nodes and node lists. -/
theorem clean_forall (allow : List AllowedTag) (P : Tok → Prop) (htext : ∀ s, P (.text (htmlEscape s)))
    (htag : ∀ name tag (attrs : List (String × String)), lookupTag allow name = some tag → tag.name ≠ "" →
      P (.startTag name (attrs.filter fun a => tag.attrs.contains a.1) (isVoid name)) ∧ P (.endTag name)) :
    ∀ fuel, (∀ n, ∀ t ∈ cleanToks allow fuel n, P t) ∧ (∀ l, ∀ t ∈ cleanList allow fuel l, P t) := by
  intro fuel
  induction fuel with
  | zero => exact ⟨fun n t ht => by simp [cleanToks] at ht, fun l t ht => by simp [cleanList] at ht⟩
  | succ fuel ih =>
    obtain ⟨ihN, ihL⟩ := ih
    constructor
    · intro n t ht
      cases n with
      | text data => simp only [cleanToks, List.mem_singleton] at ht; exact ht ▸ htext data
      | comment d kids | doctype d kids | other kids => exact ihL kids t ht
      | elem name attrs kids =>
        simp only [cleanToks] at ht
        split at ht
        · rename_i tag hl
          split at ht
          · exact ihL kids t ht
          · rename_i hne
            obtain ⟨hs, he⟩ := htag name tag attrs hl (by simpa using hne)
            simp only [List.mem_append, List.mem_singleton] at ht
            rcases ht with (rfl | ht) | ht
            · exact hs
            · exact ihL kids t ht
            · split at ht
              · cases ht
              · exact List.mem_singleton.mp ht ▸ he
        · exact ihL kids t ht
    · intro l t ht
      cases l with
      | nil => simp [cleanList] at ht
      | cons n rest =>
        simp only [cleanList, List.mem_append] at ht
        exact ht.elim (ihN n t) (ihL rest t)

/-- **C14 (only allow-listed tags and attributes, text inert, no comments or declarations).** -/
theorem C14_tokens (defs : List String) (doc : List DNode) (fuel : Nat) :
    ∀ t ∈ cleanList (defs.map createTag) fuel doc, TokOk (defs.map createTag) t :=
  (clean_forall _ (TokOk _) escape_safe
    (fun _ tag _ hl hne => ⟨⟨tag, hl, hne, fun a ha => by simpa using (List.mem_filter.mp ha).2⟩, tag, hl, hne⟩) fuel).2 doc

/-- **C14 (empty allow-list).** The result contains no `<` at all (nor `>`, nor quotes), for every tree. -/
theorem C14_empty_allow (doc : List DNode) (fuel : Nat) :
    ∀ c ∈ (stripTags [] doc fuel).toList, sig c = false := by
  intro c hc
  simp only [stripTags, render, String.toList_ofList, renderChars, List.mem_flatMap] at hc
  obtain ⟨t, ht, hct⟩ := hc
  -- with nothing allowed no name looks up to a tag: only text is emitted
  obtain ⟨s, rfl⟩ := (clean_forall [] (fun t => ∃ s, t = .text (htmlEscape s)) (fun s => ⟨s, rfl⟩)
    (fun _ _ _ hl => by simp [lookupTag] at hl) fuel).2 doc t ht
  exact escape_safe s c (by simpa [renderTok] using hct)

/-- **C14 (attribute values stay inside their quotes).** -/
theorem C14_attr_value_safe (v : String) : ∀ c ∈ (htmlEscape v).toList, c ≠ '"' := by
  intro c hc h
  have := escape_safe v c hc
  subst h
  simp [sig] at this

/-- the void-element test uses the table read from pug_parser.go -/
theorem C14_extract : Gen.voidTags_ok = true := rfl

/-! ## the code the model mirrors, by its control skeleton

`Gen.stripSkeleton`: `cleanTags` and `getAllowedAttributes` (templatefunctions/striptags_func.go): the node kinds, the allow-list tests for tags and attributes, the escaping of what remains; the control skeleton (conditions, loop headers, returns, in source order with nesting depth; regenerated on every run)
the serializer model (`Strip`) was written against. -/

def expected_stripSkeleton : List (String × String) :=
  [("cleanTags", "0 if n.Type == html.ElementNode"),
   ("cleanTags", "1 if ok"),
   ("cleanTags", "0 if allowedTag.name != \"\""),
   ("cleanTags", "1 if isSelfClosingTag(n)"),
   ("cleanTags", "0 if n.Type == html.TextNode"),
   ("cleanTags", "0 if n.FirstChild != nil"),
   ("cleanTags", "1 for c != nil"),
   ("cleanTags", "0 if allowedTag.name != \"\" && !isSelfClosingTag(n)"),
   ("cleanTags", "0 return res"),
   ("getAllowedAttributes", "0 range attributes"),
   ("getAllowedAttributes", "1 if ok"),
   ("getAllowedAttributes", "2 if attr.Val != \"\""),
   ("getAllowedAttributes", "2 else "),
   ("getAllowedAttributes", "0 return res")]

/-- **C14 (the model's tie to the code, by shape).** -/
theorem C14_strip_skeleton : Gen.stripSkeleton_ok = true ∧ Gen.stripSkeleton = expected_stripSkeleton :=
  ⟨rfl, rfl⟩

end Pug.Props.C14
