import PugModel.Sys.RateLimit
import PugModel.Gen.Tables
import PugProofs.Lists
/-!
# C09 — the render rate limit bounds concurrency and never leaks a slot

All theorems quantify over EVERY limit N ≥ 0 and EVERY event sequence (interleaving of arrivals, admissions in any wake-up
order, cancellations while waiting, and exits of every kind: success, missing template, failing template function, panic).
-/
namespace Pug.Props.C09
open Pug.Sys

/-- **C09 (the code has the modelled shape).** Facts read from Engine.Render and WithRateLimit on this run: the slot is
taken by a send inside a select that also listens to ctx.Done() (whose branch returns an error and no content), the release
is a deferred receive registered right after the select inside the same guarded block, these are the ONLY send and receive
on the channel in the package, the guard is `cap(e.ratelimit) > 0`, and a limit ≤ 0 installs no channel. -/
theorem C09_shape :
    Gen.gateShape_ok = true ∧ (Gen.gateShape.all (·.2)) = true ∧ Gen.gateShape.length = 6 ∧
    Gen.gateSendCount = 1 ∧ Gen.gateRecvCount = 1 ∧ Gen.rateLimitDisableCmp = "<=" ∧ Gen.rateLimitCapIsParam = true := by decide +kernel

/-! What every reachable state of the gate satisfies: the channel holds as many tokens as there are renders inside that took one
(`holders`), nobody is listed twice or both waiting and inside, the channel is never over its capacity; with the gate on everybody
inside holds a token, with the gate off nobody does and nobody waits. -/
structure Inv (s : GState) : Prop where
  slots_eq : s.slots = s.holders
  nodup_in : (s.inside.map (·.1)).Nodup
  nodup_w : s.waiting.Nodup
  disj : ∀ t ∈ s.waiting, t ∉ s.inside.map (·.1)
  bound : s.slots ≤ s.cap
  gated : s.cap > 0 → ∀ p ∈ s.inside, p.2 = true
  ungated : s.cap = 0 → s.waiting = [] ∧ ∀ p ∈ s.inside, p.2 = false

section
variable {s s' : GState} {e : GEv} {t : Nat} {k : ExitKind}

/-! ## `gstep` event by event, `grun` as a fold

Each event is enabled iff its guard holds, and then the result is the `some`. -/

theorem gstep_arrive : gstep s (.arrive t) = some s' ↔ s.known t = false ∧
    (if s.cap = 0 then { s with inside := s.inside ++ [(t, false)] } else { s with waiting := s.waiting ++ [t] }) = s' := by
  refine Option.ite_none_left_eq_some.trans (and_congr (Bool.not_eq_true _).to_iff ?_)
  split <;> exact Option.some_inj

theorem gstep_grant : gstep s (.grant t) = some s' ↔ (t ∈ s.waiting ∧ s.slots < s.cap) ∧
    { s with waiting := s.waiting.erase t, inside := s.inside ++ [(t, true)], slots := s.slots + 1 } = s' := by
  refine Option.ite_none_right_eq_some.trans (and_congr ?_ Option.some_inj)
  simp only [Bool.and_eq_true, List.contains_eq_mem, decide_eq_true_eq]

theorem gstep_cancel : gstep s (.cancel t) = some s' ↔ t ∈ s.waiting ∧
    { s with waiting := s.waiting.erase t, finished := s.finished ++ [(t, .cancelled)] } = s' := by
  refine Option.ite_none_right_eq_some.trans (and_congr ?_ Option.some_inj)
  simp only [List.contains_eq_mem, decide_eq_true_eq]

theorem gstep_exit : gstep s (.exit t k) = some s' ↔ ∃ holds, s.inside.find? (·.1 == t) = some (t, holds) ∧
    { s with inside := s.inside.filter (·.1 != t), slots := if holds then s.slots - 1 else s.slots,
             finished := s.finished ++ [(t, .exited k)] } = s' := by
  rw [gstep]
  split
  · next t' holds hf =>
    obtain rfl : t' = t := by simpa using List.find?_some hf
    simp [hf]
  · next hf => simp [hf]

theorem grun_eq_foldlM (s : GState) (es : List GEv) : grun s es = es.foldlM gstep s := by
  induction es generalizing s with
  | nil => rfl
  | cons e es ih =>
    simp only [grun, List.foldlM_cons, ← ih]
    cases gstep s e <;> rfl

theorem gstep_cap (hs : gstep s e = some s') : s'.cap = s.cap := by
  cases e with
  | arrive t => obtain ⟨-, rfl⟩ := gstep_arrive.mp hs; split <;> rfl
  | grant t => obtain ⟨-, rfl⟩ := gstep_grant.mp hs; rfl
  | cancel t => obtain ⟨-, rfl⟩ := gstep_cancel.mp hs; rfl
  | exit t k => obtain ⟨_, -, rfl⟩ := gstep_exit.mp hs; rfl

theorem inv_init (cap : Nat) : Inv (GState.init cap) := by
  constructor <;> simp [GState.init, GState.holders]

theorem known_false (h : s.known t = false) : t ∉ s.waiting ∧ t ∉ s.inside.map (·.1) := by
  simp only [GState.known, Bool.or_eq_false_iff, List.contains_eq_mem, decide_eq_false_iff_not, List.any_eq_false,
    beq_iff_eq] at h
  exact ⟨h.1.1, fun hm => by obtain ⟨p, hp, rfl⟩ := List.mem_map.mp hm; exact h.1.2 p hp rfl⟩

/-- the holders are counted with `countP`, which is additive over `++` and `::`: no case split on who holds -/
theorem holders_snoc (l : List (Nat × Bool)) (t : Nat) (b : Bool) :
    ((l ++ [(t, b)]).filter (·.2)).length = (l.filter (·.2)).length + if b then 1 else 0 := by
  simp only [← List.countP_eq_length_filter, List.countP_append, List.countP_singleton]

/-- removing the (unique) entry of thread `t` lowers the number of holders by one iff it held a slot -/
theorem holders_filter (l : List (Nat × Bool)) (t : Nat) (h : Bool) (hn : (l.map (·.1)).Nodup) (hm : (t, h) ∈ l) :
    ((l.filter (·.1 != t)).filter (·.2)).length + (if h then 1 else 0) = (l.filter (·.2)).length := by
  simp only [← List.countP_eq_length_filter]
  induction l with
  | nil => cases hm
  | cons p rest ih =>
    obtain ⟨hp, hn⟩ := List.nodup_cons.mp hn
    rcases List.mem_cons.mp hm with rfl | hm
    · have hrest : rest.filter (·.1 != t) = rest :=
        List.filter_eq_self.mpr fun q hq => bne_iff_ne.mpr fun e => hp (List.mem_map.mpr ⟨q, hq, e⟩)
      simp only [List.filter_cons, bne_self_eq_false, Bool.false_eq_true, ↓reduceIte, hrest, List.countP_cons]
    · have hne : p.1 ≠ t := fun e => hp (List.mem_map.mpr ⟨_, hm, e.symm⟩)
      simp only [List.filter_cons, bne_iff_ne.mpr hne, ↓reduceIte, List.countP_cons, ← ih hn hm]
      exact Nat.add_right_comm ..

/-- **the invariant is preserved by every step.** Each event touches two or three components; the other fields of `Inv` are
handed over (`{ hi with .. }`: they are the old ones up to unfolding the record update). -/
theorem inv_step (hi : Inv s) (hs : gstep s e = some s') : Inv s' := by
  cases e with
  | arrive t =>
    obtain ⟨hk, rfl⟩ := gstep_arrive.mp hs
    obtain ⟨hnw, hni⟩ := known_false hk
    split <;> rename_i hc
    · obtain ⟨hw0, hf⟩ := hi.ungated hc
      exact { hi with
        slots_eq := hi.slots_eq.trans (holders_snoc s.inside t false).symm
        nodup_in := List.map_append ▸ nodup_snoc hi.nodup_in hni
        disj := fun x hx => absurd (hw0 ▸ hx) List.not_mem_nil
        gated := fun h => absurd hc (Nat.ne_of_gt h)
        ungated := fun _ => ⟨hw0, List.forall_mem_append.mpr ⟨hf, List.forall_mem_singleton.mpr rfl⟩⟩ }
    · exact { hi with
        nodup_w := nodup_snoc hi.nodup_w hnw
        disj := List.forall_mem_append.mpr ⟨hi.disj, List.forall_mem_singleton.mpr hni⟩
        ungated := fun h => absurd h hc }
  | grant t =>
    obtain ⟨⟨hw, hlt⟩, rfl⟩ := gstep_grant.mp hs
    have hcap : s.cap > 0 := Nat.zero_lt_of_lt hlt
    exact { hi with
      slots_eq := (congrArg (· + 1) hi.slots_eq).trans (holders_snoc s.inside t true).symm
      nodup_in := List.map_append ▸ nodup_snoc hi.nodup_in (hi.disj t hw)
      nodup_w := hi.nodup_w.erase t
      disj := fun x hx => by
        have := (List.Nodup.mem_erase_iff hi.nodup_w).mp hx
        simp only [List.map_append, List.map_cons, List.map_nil, List.mem_append, List.mem_singleton, not_or]
        exact ⟨hi.disj x this.2, this.1⟩
      bound := hlt
      gated := fun _ => List.forall_mem_append.mpr ⟨hi.gated hcap, List.forall_mem_singleton.mpr rfl⟩
      ungated := fun h => absurd h (Nat.ne_of_gt hcap) }
  | cancel t =>
    obtain ⟨-, rfl⟩ := gstep_cancel.mp hs
    exact { hi with
      nodup_w := hi.nodup_w.erase t
      disj := fun x hx => hi.disj x (List.mem_of_mem_erase hx)
      ungated := fun h => ⟨by rw [(hi.ungated h).1]; rfl, (hi.ungated h).2⟩ }
  | exit t k =>
    obtain ⟨holds, hf, rfl⟩ := gstep_exit.mp hs
    have hcount := holders_filter s.inside t holds hi.nodup_in (List.mem_of_find?_eq_some hf)
    have hsub : (s.inside.filter (·.1 != t)).Sublist s.inside := List.filter_sublist
    exact { hi with
      slots_eq := by
        have h : s.slots = _ + if holds then 1 else 0 := hi.slots_eq.trans hcount.symm
        cases holds
        · exact h
        · exact Nat.sub_eq_of_eq_add h
      nodup_in := hi.nodup_in.sublist (hsub.map _)
      disj := fun x hx h => hi.disj x hx ((hsub.map _).subset h)
      bound := by
        show (if holds then s.slots - 1 else s.slots) ≤ s.cap
        split
        · exact Nat.le_trans (Nat.sub_le ..) hi.bound
        · exact hi.bound
      gated := fun hc p hp => hi.gated hc p (hsub.subset hp)
      ungated := fun h => ⟨(hi.ungated h).1, fun p hp => (hi.ungated h).2 p (hsub.subset hp)⟩ }

theorem reach_inv {cap : Nat} {es : List GEv} (hr : grun (GState.init cap) es = some s) : Inv s ∧ s.cap = cap := by
  rw [grun_eq_foldlM] at hr
  exact ⟨foldlM_invariant inv_step (inv_init cap) hr, foldlM_invariant (fun h hs => (gstep_cap hs).trans h) rfl hr⟩

end

/-- with the gate on, everybody past it holds a slot: occupancy = renders inside -/
theorem Inv.slots_inside {s : GState} (hi : Inv s) (hc : s.cap > 0) : s.slots = s.inside.length := by
  rw [hi.slots_eq, GState.holders, List.filter_eq_self.mpr (hi.gated hc)]

theorem Inv.inside_le {s : GState} (hi : Inv s) (hc : s.cap > 0) : s.inside.length ≤ s.cap :=
  hi.slots_inside hc ▸ hi.bound

/-- **C09 (bound).** With a limit of N > 0, at most N renders are past the gate at any instant, whatever happened before. -/
theorem C09_bound (cap : Nat) (es : List GEv) (s : GState) (hc : cap > 0) (hr : grun (GState.init cap) es = some s) :
    s.inside.length ≤ cap := by
  obtain ⟨hi, rfl⟩ := reach_inv hr
  exact hi.inside_le hc

/-- **C09 (no leak).** After ANY history — including exits by missing template, failing template function and panic — the
channel occupancy equals the number of renders that are past the gate; when none is, every slot is free again. -/
theorem C09_no_leak (cap : Nat) (es : List GEv) (s : GState) (hr : grun (GState.init cap) es = some s) :
    s.slots = s.holders ∧ (s.inside = [] → s.slots = 0) := by
  have hi := (reach_inv hr).1
  exact ⟨hi.slots_eq, fun h => by rw [hi.slots_eq, GState.holders, h]; rfl⟩

/-- a waiting render is admitted as soon as fewer than N are inside: the grant step is enabled -/
theorem C09_grant_enabled (s : GState) (t : Nat) (hw : t ∈ s.waiting) (hlt : s.slots < s.cap) :
    ∃ s', gstep s (.grant t) = some s' :=
  ⟨_, gstep_grant.mpr ⟨⟨hw, hlt⟩, rfl⟩⟩

/-- **C09 (cancelled while waiting).** A cancelled waiter gets its error, takes no slot and is not inside. -/
theorem C09_cancel (s s' : GState) (t : Nat) (hi : Inv s) (hs : gstep s (.cancel t) = some s') :
    s'.slots = s.slots ∧ (t, Outcome.cancelled) ∈ s'.finished ∧ t ∉ s'.inside.map (·.1) := by
  obtain ⟨hw, rfl⟩ := gstep_cancel.mp hs
  exact ⟨rfl, List.mem_append_right _ (List.mem_singleton.mpr rfl), hi.disj t hw⟩

/-- **C09 (limit disabled).** With N = 0 nothing ever waits: every arrival is past the gate at once. -/
theorem C09_disabled (es : List GEv) (s : GState) (hr : grun (GState.init 0) es = some s) : s.waiting = [] := by
  obtain ⟨hi, hcap⟩ := reach_inv hr
  exact (hi.ungated hcap).1

/-- **C09 (quiescent occupancy).** In a state where no admission is possible, the number of renders past the gate is
min(N, renders in progress) — the quantity the scripted histories observe on the real engine. -/
theorem C09_quiescent (s : GState) (hi : Inv s) (hc : s.cap > 0) (hq : s.quiescent = true) :
    s.inside.length = min s.cap (s.inside.length + s.waiting.length) := by
  have hle := hi.inside_le hc
  simp only [GState.quiescent, Bool.or_eq_true, List.isEmpty_iff, decide_eq_true_eq] at hq
  rcases hq with hq | hq
  · -- nobody waits: every render in progress is inside
    rw [hq]
    exact (Nat.min_eq_right hle).symm
  · -- the channel is full
    rw [hi.slots_inside hc] at hq
    exact (Nat.le_antisymm hle hq).trans (Nat.min_eq_left (Nat.le_trans hq (Nat.le_add_right ..))).symm

/-! non-vacuity: a concrete history with a panic exit and a cancellation -/
example : (grun (GState.init 1) [.arrive 1, .arrive 2, .arrive 3, .grant 1, .cancel 2, .exit 1 .panic, .grant 3]).map
    (fun s => (s.slots, s.inside.map (·.1), s.waiting)) = some (1, [3], []) := by decide +kernel

/-! ## `Engine.Render` as the gate model was written against it

`Gen.renderSkeleton`: the control skeleton of `Engine.Render` and `Engine.RenderPartials` - every `if` condition, the `select`
with its two communications, the deferred release, every `return`, in source order with nesting depth - regenerated from
pugjs/engine.go on every run. Between taking the slot (`comm send e.ratelimit`) and installing its release (`defer` with
`recv e.ratelimit`) there is no way out of the function; every later `return` runs the deferred release. An added early return,
a moved `defer`, a changed condition reopens the obligation. -/

def expectedRenderSkeleton : List (String × String) :=
  [("Render", "0 defer span.End"),
   ("Render", "0 if cap(e.ratelimit) > 0"),
   ("Render", "1 select "),
   ("Render", "2 comm recv <-ctx.Done()"),
   ("Render", "3 return nil, fmt.Errorf(\"template %s wait failed: %w\", templateName, ctx.Err())"),
   ("Render", "2 comm send e.ratelimit"),
   ("Render", "1 defer (func() literal)"),
   ("Render", "2 recv e.ratelimit"),
   ("Render", "0 range p"),
   ("Render", "0 if len(p) >= 2 && p[len(p) - 2] != page"),
   ("Render", "0 if atomic.LoadInt32(&e.templatesLoaded) == 0 && !e.Debug"),
   ("Render", "1 if err != nil && atomic.LoadInt32(&e.templatesLoaded) == 0"),
   ("Render", "2 return nil, err"),
   ("Render", "0 else "),
   ("Render", "1 if e.Debug"),
   ("Render", "2 if err != nil"),
   ("Render", "3 return nil, err"),
   ("Render", "0 if !ok"),
   ("Render", "1 return nil, errors.Errorf(`Template %s not found!`, templateName)"),
   ("Render", "0 if err != nil"),
   ("Render", "1 range strings.Split(e.TemplateCode[templateName], \"\\n\")"),
   ("Render", "1 return nil, errors.New(errstr)"),
   ("Render", "0 return result, nil"),
   ("RenderPartials", "0 range partials"),
   ("RenderPartials", "1 if err != nil"),
   ("RenderPartials", "2 return nil, err"),
   ("RenderPartials", "0 return res, nil")]

/-- **C09 / C10 / C17 (the models' tie to `Engine.Render`).** -/
theorem C09_render_skeleton : Gen.renderSkeleton_ok = true ∧ Gen.renderSkeleton = expectedRenderSkeleton :=
  ⟨rfl, rfl⟩

/-- nothing stands between taking the slot and installing its release: in the skeleton the `defer` follows the send directly -/
theorem C09_release_installed_at_once :
    ∃ pre post, Gen.renderSkeleton = pre ++ [("Render", "2 comm send e.ratelimit"), ("Render", "1 defer (func() literal)"),
      ("Render", "2 recv e.ratelimit")] ++ post :=
  ⟨Gen.renderSkeleton.take 5, Gen.renderSkeleton.drop 8, rfl⟩

end Pug.Props.C09
