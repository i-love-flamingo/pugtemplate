import PugModel.Tpl.Exec
import PugProofs.Props.C08
/-!
# C07 — rendering is a pure, deterministic function of template and data

The executable model is a *function* of (document, data); what can break determinism in the real engine is Go's random
map iteration order. It is modelled as an arbitrary permutation of a map's items, and every consumer of that order in the
render path goes through `sortKeys` (Map.Keys without explicit order, range over a map, MarshalJSON):
* `C07_sortKeys_perm`: the sorted key list is the same for EVERY permutation of the keys (iteration-order independence);
* `C07_mapKeys_perm`: `Map.Keys()` of two maps that hold the same keys in different iteration orders is the same list;
* `C07_explicit_order`: a map with an explicit order (object literal) ignores the iteration order altogether.
History independence and the caller's data being untouched are checked on the real engine by the correspondence
(repetitions, second engine, fresh processes, render histories, deep comparison of the caller's data).
-/
namespace Pug.Props.C07
open Pug Pug.Tpl

/-- Sorting by a total order forgets the order of its input: sorted permutations of each other are equal. -/
theorem mergeSort_eq_of_perm {α : Type} {r : α → α → Prop} [DecidableRel r] (trans : ∀ {a b c}, r a b → r b c → r a c)
    (total : ∀ a b, r a b ∨ r b a) (antisymm : ∀ {a b}, r a b → r b a → a = b) {l1 l2 : List α} (h : l1.Perm l2) :
    l1.mergeSort (fun a b => decide (r a b)) = l2.mergeSort (fun a b => decide (r a b)) := by
  have sorted := List.pairwise_mergeSort (le := fun a b => decide (r a b))
    (fun _ _ _ h1 h2 => decide_eq_true (trans (of_decide_eq_true h1) (of_decide_eq_true h2)))
    (fun a b => by simpa using total a b)
  exact List.Perm.eq_of_pairwise (fun _ _ _ _ h1 h2 => antisymm (of_decide_eq_true h1) (of_decide_eq_true h2))
    (sorted l1) (sorted l2) (((List.mergeSort_perm l1 _).trans h).trans (List.mergeSort_perm l2 _).symm)

/-- **C07 (iteration-order independence).** -/
theorem C07_sortKeys_perm (l1 l2 : List String) (h : l1.Perm l2) : sortKeys l1 = sortKeys l2 :=
  mergeSort_eq_of_perm (r := (· ≤ ·)) String.le_trans String.le_total String.le_antisymm h

theorem mapKeys_unordered (items : List (String × Val)) :
    (mapKeys { items, order := [] }).1 = sortKeys (items.map (·.1)) := rfl

theorem mapKeys_ordered (items : List (String × Val)) {o : List String} (ho : o ≠ []) :
    (mapKeys { items, order := o }).1 = o := by
  rw [mapKeys, if_pos (List.length_pos_iff.mpr ho)]

/-- **C07 (Map.Keys).** Two maps without explicit order whose items are permutations of each other have the same key list. -/
theorem C07_mapKeys_perm (i1 i2 : List (String × Val)) (h : i1.Perm i2) :
    (mapKeys { items := i1, order := [] }).1 = (mapKeys { items := i2, order := [] }).1 := by
  rw [mapKeys_unordered, mapKeys_unordered]
  exact C07_sortKeys_perm _ _ (h.map _)

/-- **C07 (explicit order wins).** -/
theorem C07_explicit_order (i1 i2 : List (String × Val)) (o : List String) (ho : o ≠ []) :
    (mapKeys { items := i1, order := o }).1 = (mapKeys { items := i2, order := o }).1 :=
  (mapKeys_ordered i1 ho).trans (mapKeys_ordered i2 ho).symm

/-- **C07 (history independence: a render leaves nothing behind).** The complete set of writes to engine / template / package
state in the functions a Render can reach, regenerated from the Go source on every run, consists of the listed per-call
writes only: there is no cache, counter, pool or memo table through which one render could influence a later one. -/
theorem C07_render_writes_nothing_shared :
    Gen.renderPathWrites_ok = true ∧ Gen.renderReach_ok = true ∧
    Gen.renderPathWrites.all (fun w => Pug.Props.C08.perCallWrites.contains w) = true :=
  Pug.Props.C08.C08_render_path_writes_nothing_shared

/-- **C07 (no hidden package state).** The inventory of package-level variables of pugjs, pugjs/parse, templatefunctions and the
module root - regenerated from the Go source on every run, constant tables left out - holds nothing but the known entries
(`Pug.Props.C08.knownPkgState`): no cache, pool, memo table, once-guard or flag has been added through which one render (or one
process history) could reach another. The write-set theorem above covers assignments; this one covers state that is changed
through method calls such as `sync.Map.Store` or `sync.Pool.Put`. -/
theorem C07_package_state_inventory :
    Gen.pkgState_ok = true ∧ Gen.pkgState.all (fun v => Pug.Props.C08.knownPkgState.contains v) = true :=
  Pug.Props.C08.C08_package_state_inventory

end Pug.Props.C07
