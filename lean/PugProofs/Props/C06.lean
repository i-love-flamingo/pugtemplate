import PugProofs.Props.C10
import PugProofs.Props.C08
import PugProofs.Tpl.Quote
import PugProofs.C06.Static
/-!
# C06 — static structure and text are reproduced faithfully

For EVERY text the quoted pieces print the text byte for byte, the template lexer splits the emitted source back into exactly those
pieces (no `{` of the text pairs up into a delimiter: `{{`, `{{{`, `{}}`, a trailing `{` …), and the source never ends in a text `{`;
the void-element table read from pug_parser.go is the specification's; every static document (text, doctype, attribute-less tags
other than `script`, any nesting) renders through the complete model pipeline to exactly its reference serialisation.
-/
namespace Pug.Props.C06
open Pug Pug.Tpl

theorem C06_extract : Gen.voidTags_ok = true := by decide

/-- the void elements of the source are exactly the specification's -/
theorem C06_void_table :
    (Gen.voidTags.all fun t => Spec.voidElements.contains t) = true ∧
    (Spec.voidElements.all fun t => Gen.voidTags.contains t) = true := by decide +kernel

/-- **C06 (quoted text prints as the text).** For EVERY text: executing the pieces the quoting produces prints the text. -/
theorem C06_quote_output (t : List Char) : outputOf (quoteL t []) = t := quote_output t

/-! ## the lexer finds the boundaries where the quoting put them -/

theorem srcOf_append (a b : List Piece) : srcOf (a ++ b) = srcOf a ++ srcOf b := by
  induction a with
  | nil => rfl
  | cons p rest ih => cases p <;> simp [srcOf, ih]

theorem srcOf_flush (cur : List Char) : srcOf (flush cur) = cur.reverse := by
  cases cur <;> simp [flush, srcOf]

/-- the first text piece absorbs what was accumulated -/
theorem src_quote_cur (t cur : List Char) : srcOf (quoteL t cur) = cur.reverse ++ srcOf (quoteL t []) := by
  induction t generalizing cur with
  | nil => simp [quoteL, srcOf_flush, srcOf]
  | cons c rest ih =>
    cases h : braceAct c rest
    · rw [quoteL_keep h, quoteL_keep h, ih (c :: cur), ih [c]]; simp
    · rw [quoteL_act h, quoteL_act h]; simp [srcOf_append, srcOf_flush]

theorem src_keep {c : Char} {rest : List Char} (h : braceAct c rest = false) :
    srcOf (quoteL (c :: rest) []) = c :: srcOf (quoteL rest []) := by
  rw [quoteL_keep h, src_quote_cur]; rfl

theorem src_act {c : Char} {rest : List Char} (h : braceAct c rest = true) :
    srcOf (quoteL (c :: rest) []) = LB ++ srcOf (quoteL rest []) := by
  rw [quoteL_act h]; simp [srcOf]

theorem src_len (t : List Char) : (srcOf (quoteL t [])).length ≤ 7 * t.length := by
  -- a kept character adds one character of source, the action the seven of `LB`
  induction t with
  | nil => exact Nat.le_refl 0
  | cons c rest ih =>
    cases h : braceAct c rest
    · rw [src_keep h]; exact Nat.add_le_add ih (by decide : 1 ≤ 7)
    · rw [src_act h, List.length_append, Nat.add_comm]; exact Nat.add_le_add ih (Nat.le_refl 7)

theorem lexQ_nil (fuel : Nat) (cur : List Char) : lexQ (fuel + 1) [] cur = some (flush cur) := by
  simp [lexQ]

/-- a character kept as text is not the start of a delimiter in the emitted source: it is no `{`, or what follows it in the source is none -/
theorem src_keep_no_delim {c : Char} {rest : List Char} (h : braceAct c rest = false) :
    LD.isPrefixOf (c :: srcOf (quoteL rest [])) = false := by
  rcases braceAct_false h with hc | ⟨d, r, rfl, hd⟩
  · simp [LD, List.isPrefixOf, Ne.symm hc]
  · rw [src_keep (by simp [braceAct, hd])]
    simp [LD, List.isPrefixOf, Ne.symm hd]

/-- ordinary character: not the start of a delimiter -/
theorem lexQ_char (fuel : Nat) (c : Char) (rest cur : List Char) (h : LD.isPrefixOf (c :: rest) = false) :
    lexQ (fuel + 1) (c :: rest) cur = lexQ fuel rest (c :: cur) := by
  simp [lexQ, h]

/-- the quoting action -/
theorem lexQ_lb (fuel : Nat) (rest cur : List Char) :
    lexQ (fuel + 1) (LB ++ rest) cur = (lexQ fuel rest []).map (fun ps => flush cur ++ [none] ++ ps) := by
  simp [lexQ, LB, LD, List.isPrefixOf]

/-- main lemma: lexing the source of the rest, with `cur` accumulated, yields the quoting of the rest from `cur`; one unit of fuel
per character of the text, one for the end -/
theorem lex_quote_gen (t cur : List Char) (fuel : Nat) (hf : t.length < fuel) :
    lexQ fuel (srcOf (quoteL t [])) cur = some (quoteL t cur) := by
  induction t generalizing cur fuel with
    obtain ⟨f, rfl⟩ := Nat.exists_eq_add_one_of_ne_zero (Nat.ne_zero_of_lt hf)
  | nil => exact lexQ_nil f cur
  | cons c rest ih =>
    have hf' : rest.length < f := Nat.lt_of_succ_lt_succ hf
    cases h : braceAct c rest
    · rw [src_keep h, lexQ_char f c _ cur (src_keep_no_delim h), quoteL_keep h, ih _ _ hf']
    · rw [src_act h, lexQ_lb, ih _ _ hf', quoteL_act h]; rfl

/-- **C06 (delimiters in text).** For every literal text, the template lexer splits the emitted source into exactly the
pieces the quoting produced: text is read as text, and the only actions found are the `{{"{"}}` the quoting inserted. -/
theorem C06_quote_lex (t : List Char) :
    lexQ (7 * t.length + 1) (srcOf (quoteL t [])) [] = some (quoteL t []) :=
  lex_quote_gen t [] _ (by omega)

/-- the last piece of the quoting, if it is a text, does not end in `{` - so the emitted source cannot pair up with whatever is
emitted next (an action, another text, a tag); `cur` is the text accumulated so far, and the invariant is that its last character
was kept by the rule of the quoting: a `{` there has a character other than `{` behind it -/
theorem quote_last_piece (t cur : List Char) (hcur : ∀ c ∈ cur.head?, braceAct c t = false) :
    ∀ cs, (quoteL t cur).getLast? = some (some cs) → cs.getLast? ≠ some '{' := by
  induction t generalizing cur with
  | nil =>
    intro cs h
    have hc : cur.head? ≠ some '{' := fun hh => by simpa [braceAct] using hcur _ hh
    simp only [quoteL, flush] at h
    split at h
    · simp at h
    · cases h
      simpa [List.getLast?_reverse] using hc
  | cons c rest ih =>
    intro cs h
    cases hb : braceAct c rest
    · rw [quoteL_keep hb] at h
      exact ih (c :: cur) (by simpa using hb) cs h
    · rw [quoteL_act hb] at h
      cases hq : quoteL rest [] with
      | nil => simp [hq] at h
      | cons p ps => exact ih [] (by simp) cs (by simpa [hq] using h)

/-- **C06 (no dangling brace).** -/
theorem C06_quote_no_trailing_brace (t : List Char) :
    ∀ cs, (quoteL t []).getLast? = some (some cs) → cs.getLast? ≠ some '{' :=
  quote_last_piece t [] (by simp)

/-! non-vacuity: the inputs that used to break compilation -/
example : quoteL "f(){}}".toList [] = [some "f(){}}".toList] := by decide +kernel
example : quoteL "x{".toList [] = [some ['x'], none] := by decide +kernel
example : quoteL "a{{{b".toList [] = [some ['a'], none, none, some ['{', 'b']] := by decide +kernel

/-! ## whole static documents: structure and text reproduced, for every tree

`staticListF` accepts text (any characters, braces included), doctype and tags without attributes other than `script`, nested
to any depth; `serListF` is the reference serialisation (start tag, children, end tag; void elements without children and end
tag). The induction over the tree is in `PugProofs/C06/Static.lean`; the stage lemmas - merge texts, trim markers, nesting by the
template parser, execution, for every flat fragment list - in `PugProofs/Tpl/Frags.lean` and `Tpl/Doc.lean`. -/

open Pug.Props.C06S Pug.Driver in
/-- **C06 (static structure and text, whole documents).** For EVERY static document, whatever the data: the model of
LoadTemplates + Render (transpiler, text merging, trim markers, template parser, executor) prints exactly the reference
serialisation of the tree - every start tag, every end tag in the right place, every text byte for byte. -/
theorem C06_static_render (doc : List Node) (data : Lean.Json) (h : staticListF nodeFuel doc = true) :
    ∃ frags, compileNodes { funcs := engineFuncs ++ [], parserFuncs := engineFuncs ++ [] ++ builtinNames } doc = .ok frags ∧
      (frags.length + 2 < 100000000 → renderModel doc data [] false = okOut (serListF nodeFuel doc)) := by
  obtain ⟨frags, h1, h2, h3⟩ := (compile_static (renderEnv false) rfl nodeFuel).2 doc h
  refine ⟨frags, h1, fun hlen => ?_⟩
  exact h3 ▸ render_flat_noTrim h1 ((collect_static nodeFuel).2 doc h) (plain_noTrim h2)
    (prints_plain { defs := [] } (fun _ => True) h2) (fun _ _ _ => trivial) trivial hlen

open Pug.Props.C06S in
/-- non-vacuity: `div > (p > "a{" , br , "x") , "}}"` is static -/
example : staticListF 7 [.tag "div" false [] [] [.tag "p" true [] [] [.text "a{"], .tag "br" false [] [] [], .text "x"], .text "}}"]
    = true := by decide +kernel

/-- **C06 (one compiler state per template file).** `C10_state_per_template` (mixin registry, block counter and raw-mode flag are created anew
for every template file): each document consists of its own template's tags and text: nothing another page of the directory defines is appended to it. -/
theorem C06_compiler_state_per_template :
    (Gen.loadSkeleton.filter fun r => r.2 == "3 new renderState" || r.2 == "0 new renderState" || r.2 == "1 new renderState" ||
      r.2 == "2 new renderState" || r.2 == "4 new renderState") = [("compileDir", "3 new renderState")] :=
  Pug.Props.C10.C10_state_per_template

/-- **C06 (no state outlives a render or a compilation in package variables).** `C08_package_state_inventory`, restated so that THIS property's check
fails on it before any input is drawn. -/
theorem C06_package_state_inventory :
    Gen.pkgState_ok = true ∧ Gen.pkgState.all (fun v => Pug.Props.C08.knownPkgState.contains v) = true :=
  Pug.Props.C08.C08_package_state_inventory

end Pug.Props.C06
