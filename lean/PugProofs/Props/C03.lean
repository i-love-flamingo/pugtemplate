import PugProofs.Props.C10
import PugProofs.Props.C08
import PugProofs.C03.Frame
import PugProofs.Tpl.Builtins
/-!
# C03 — mixins bind arguments, attributes and block content per call

One-step theorems over the executor model, for EVERY state, body, argument and fuel:
* `C03_freeze_captures`: `__freeze` makes a NEW bound block (fresh id) holding the block's template name and the caller's
  variables *as they are at the time of the call*; nothing already bound is touched (closures only grow);
* `C03_call_scope_and_frame`: a mixin invocation runs the body with the page globals only (no caller local is visible) and
  hands the caller back exactly its own variables, depth and dot, whatever the body did to its own;
* `C03_block_scope_and_frame`: `block` inside a body runs the bound block's template with the variables captured by THAT
  call (looked up by id, not by name) and then restores the mixin's own variables;
* `C03_args_positional`: parameter i is argument i, Nil beyond the supplied ones.
-/
namespace Pug.Props.C03
open Pug Pug.Tpl

/-- **C03 (the block is bound per call).** -/
theorem C03_freeze_captures (fuel : Nat) (n : String) (st : St) :
    evalExpr (fuel + 1) (.fcall "__freeze" [.lit (.str n)]) st =
      .ok (.bblock st.closures.length, { st with closures := st.closures ++ [(n, st.vars, st.depth)] }) := by
  simp [evalExpr]

/-- earlier bound blocks are untouched by a later `__freeze` -/
theorem C03_freeze_preserves (cl : List (String × List (String × Val) × Nat)) (x : String × List (String × Val) × Nat)
    (id : Nat) (h : id < cl.length) : (cl ++ [x])[id]? = cl[id]? := by
  simp [List.getElem?_append_left h]

/-- **C03 (mixin body scope + frame).** -/
theorem C03_call_scope_and_frame (fuel : Nat) (env : Env) (n : String) (a : TExpr) (body : List TNode)
    (st st1 st2 : St) (d : Val)
    (hdef : env.defs.find? (·.1 == n) = some (n, body))
    (hdepth : st.depth < Gen.maxExecDepth)
    (harg : evalExpr fuel a st = .ok (d, st1))
    (hbody : walkList fuel env body { st1 with vars := st1.globals, depth := st1.depth + 1, dot := d } = .ok ((), st2)) :
    walk (fuel + 1) env (.template (.lit n) (some a)) st =
      .ok ((), { st2 with vars := st1.vars, depth := st1.depth, dot := st1.dot }) := by
  simp only [walk, hdef, Nat.not_le.mpr hdepth, if_false, bind_run, harg, get_run, set_run, hbody, modify_run]

/-- **C03 (block scope + frame).** `block` renders the template bound by THIS call with the caller's captured variables. -/
theorem C03_block_scope_and_frame (fuel : Nat) (env : Env) (id : Nat) (n : String) (cvars : List (String × Val)) (cd : Nat)
    (body : List TNode) (st st2 : St)
    (hvar : lookupVar st.vars "$block" = .bblock id)
    (hclo : st.closures[id]? = some (n, cvars, cd))
    (hdef : env.defs.find? (·.1 == n) = some (n, body))
    (hdepth : st.depth < Gen.maxExecDepth)
    (hbody : walkList fuel env body { st with vars := cvars, depth := cd + 1, dot := .invalid } = .ok ((), st2)) :
    walk (fuel + 1) env (.template (.var "block") none) st =
      .ok ((), { st2 with vars := st.vars, depth := st.depth, dot := st.dot }) := by
  have hv : lookupVar st.vars ("$" ++ "block") = .bblock id := hvar
  simp only [walk, hv, hclo, hdef, Nat.not_le.mpr hdepth, if_false, bind_run, pure_run, get_run, set_run, hbody, modify_run]

/-- **C03 (arguments are positional; missing ones are empty).** -/
theorem C03_args_positional (a : Nat) (i : Nat) (st : St) :
    callBuiltin "__tryindex" [.arr a, .int i] st = .ok ((st.heap.getArr a).getD i .nil, st) :=
  callBuiltin_tryindex st a i

/-- **C03 (one compiler state per template file).** `C10_state_per_template` (mixin registry, block counter and raw-mode flag are created anew
for every template file): a mixin defined in one page template can never replace a same-named mixin of another page in the same directory. -/
theorem C03_compiler_state_per_template :
    (Gen.loadSkeleton.filter fun r => r.2 == "3 new renderState" || r.2 == "0 new renderState" || r.2 == "1 new renderState" ||
      r.2 == "2 new renderState" || r.2 == "4 new renderState") = [("compileDir", "3 new renderState")] :=
  Pug.Props.C10.C10_state_per_template

/-- **C03 (a call's `attributes` object is built FROM the call's values, never INTO them).** For EVERY argument list of the runtime
helper `__op__map_params` (any number of names, repeated names, values of every kind - among them arrays that live on after the
call: page data, variables, mixin arguments) and EVERY execution state: if the helper returns, then every array and every map that
existed before the call holds exactly what it held, the variables, the output and the bound blocks are untouched, and the result is
a map that did not exist before. So `+m(class=xs class='x')`, called any number of times, never grows `xs`, and an attribute-less
call gets an object of its own (stage lemmas `PugProofs/C03/Frame.lean`, relation `Grows`). -/
theorem C03_call_attributes_frame (kvs : List Val) (st st' : St) (v : Val)
    (h : callBuiltin "__op__map_params" kvs st = .ok (v, st')) :
    (∀ a, a < st.heap.arrs.length → st'.heap.getArr a = st.heap.getArr a) ∧
    (∀ a, a < st.heap.maps.length → st'.heap.getMap a = st.heap.getMap a) ∧
    st'.vars = st.vars ∧ st'.globals = st.globals ∧ st'.out = st.out ∧ st'.closures = st.closures ∧
    ∃ a, v = .map a ∧ st.heap.maps.length ≤ a := by
  rw [callBuiltin_map_params] at h
  obtain ⟨g, hv⟩ := C03F.mapParams_grows kvs st st' v h
  obtain ⟨h1, h2, h3, _, _, h6⟩ := g.rest
  exact ⟨g.getArr, g.getMap, h1, h2, h3, h6, hv⟩

/-- the runtime helpers that are function literals in the funcmap (`pugjs/runtime.go`) - the call's attributes object, the array and object
literals, the tolerant index behind mixin arguments, the conditional, string building, the attribute spread, `range`, `null` - statement by
statement, as the models `mapParams`, `opMap` and the `callBuiltin` branches of `Tpl/Exec.lean` were written against; regenerated from the Go source on every run -/
def expected_helperLitBodies : List (String × String) :=
  [("__op__map_params", "m := make(map[interface{}]interface{}, len(a)/2)"),
   ("__op__map_params", "for i := 0; i < len(a); i += 2 {"),
   ("__op__map_params", "if _, ok := m[a[i]]; ok {"),
   ("__op__map_params", "if x, ok := m[a[i]].([]interface{}); ok {"),
   ("__op__map_params", "m[a[i]] = append(x, a[i+1])"),
   ("__op__map_params", "} else {"),
   ("__op__map_params", "m[a[i]] = []interface{}{m[a[i]], a[i+1]}"),
   ("__op__map_params", "} else {"),
   ("__op__map_params", "m[a[i]] = a[i+1]"),
   ("__op__map_params", "return convert(m)"),
   ("__op__array", "return convert(a)"),
   ("__op__map", "m := &Map{"),
   ("__op__map", "items:\tmake(map[string]Object, len(a)/2),"),
   ("__op__map", "order:\tmake([]string, 0, len(a)/2),"),
   ("__op__map", "for i := 0; i < len(a); i += 2 {"),
   ("__op__map", "m.items[convert(a[i]).String()] = convert(a[i+1])"),
   ("__op__map", "m.order = append(m.order, convert(a[i]).String())"),
   ("__op__map", "return m"),
   ("__tryindex", "arr, ok := obj.(*Array)"),
   ("__tryindex", "idx, ok2 := key.(int)"),
   ("__tryindex", "if ok && ok2 {"),
   ("__tryindex", "if len(arr.items) <= idx {"),
   ("__tryindex", "return Nil{}"),
   ("__tryindex", "return arr.items[idx]"),
   ("__tryindex", "if obj, ok := obj.(Object); ok {"),
   ("__tryindex", "return obj.Member(convert(key).String())"),
   ("__tryindex", "vo, _ := indirect(reflect.ValueOf(obj))"),
   ("__tryindex", "k := int(reflect.ValueOf(key).Int())"),
   ("__tryindex", "if !vo.IsValid() {"),
   ("__tryindex", "return nil"),
   ("__tryindex", "if vo.Len() > k {"),
   ("__tryindex", "return vo.Index(k).Interface()"),
   ("__tryindex", "return nil"),
   ("__if", "if t, ok := IsTrue(test); ok && t {"),
   ("__if", "return left"),
   ("__if", "return right"),
   ("__str", "var res string"),
   ("__str", "for _, s := range l {"),
   ("__str", "res += convert(s).String()"),
   ("__str", "return res"),
   ("__and_attrs", "for _, k := range x.Keys() {"),
   ("__and_attrs", "res = append(res, attrOf(k, x.Member(k), true)...)"),
   ("__and_attrs", "return"),
   ("__Range", "var res []int"),
   ("__Range", "var m, o int"),
   ("__Range", "if len(args) == 1 {"),
   ("__Range", "m = int(args[0])"),
   ("__Range", "o = 0"),
   ("__Range", "} else {"),
   ("__Range", "m = int(args[1])"),
   ("__Range", "o = int(args[0])"),
   ("__Range", "for i := o; i < m; i++ {"),
   ("__Range", "res = append(res, i)"),
   ("__Range", "return convert(res)"),
   ("null", "return Nil{}")]

/-- **C03 (the model's tie to the code of the helper, statement by statement).** A change to any statement of `__op__map_params`
(or of the array / object literal helpers) re-opens this obligation before any input is drawn. -/
theorem C03_helper_bodies : Gen.helperLitBodies_ok = true ∧ Gen.helperLitBodies = expected_helperLitBodies :=
  ⟨rfl, rfl⟩

/-! non-vacuity: `+m(class=xs class='x')` over a heap that holds `xs = ["a", "b"]`: the helper returns, the result is the new map 0,
its `class` is the NEW array 1 = [xs, "x"], and array 0 still is ["a", "b"] -/
example :
    callBuiltin "__op__map_params" [.str "class", .arr 0, .str "class", .str "x"]
      { vars := [], globals := [], heap := { arrs := [[.S "a", .S "b"]], maps := [] }, out := "", depth := 0 } =
    .ok (.map 0, { vars := [], globals := [], out := "", depth := 0,
                   heap := { arrs := [[.S "a", .S "b"], [.arr 0, .S "x"]], maps := [{ items := [("class", .arr 1)], order := [] }] } }) := by
  rw [callBuiltin_map_params]
  rfl

/-- **C03 (no state outlives a render or a compilation in package variables).** `C08_package_state_inventory`, restated so that THIS property's check
fails on it before any input is drawn. -/
theorem C03_package_state_inventory :
    Gen.pkgState_ok = true ∧ Gen.pkgState.all (fun v => Pug.Props.C08.knownPkgState.contains v) = true :=
  Pug.Props.C08.C08_package_state_inventory

end Pug.Props.C03
