import PugModel.Sys.Partials
import PugProofs.Props.C09
import PugModel.Gen.Tables
import PugProofs.Props.C08
/-!
# C17 — partial rendering returns exactly the requested partials, each as rendered alone

`render` is universally quantified: whatever `Engine.Render` does for a single name, `RenderPartials`
(model: `Pug.Sys.renderPartials`, tied to engine.go by the correspondence check and by the generated
naming constant `Gen.partialInfix`) returns exactly the requested keys with exactly those contents, or
an error and nothing else.
-/
namespace Pug.Props.C17
open Pug.Sys

/-- value stored under `k` -/
def lookup (m : List (String × String)) (k : String) : Option String := m.lookup k

theorem lookup_cons (kv : String × String) (m : List (String × String)) (k : String) :
    lookup (kv :: m) k = if k = kv.1 then some kv.2 else lookup m k := by
  unfold lookup
  rw [List.lookup_cons]
  split <;> simp_all

/-- `mapSet` as a function update: the one equation everything else needs about it -/
theorem lookup_mapSet (m : List (String × String)) (k v k' : String) :
    lookup (mapSet m k v) k' = if k' = k then some v else lookup m k' := by
  induction m with
  | nil => exact lookup_cons ..
  | cons kv rest ih =>
    rw [mapSet]
    split
    · next h =>
      -- the entry is overwritten: both sides ask `k' = kv.1` first
      rw [lookup_cons, lookup_cons, ← h]
      split <;> rfl
    · next h =>
      rw [lookup_cons, lookup_cons, ih]
      by_cases hk : k' = k
      · rw [if_pos hk, if_pos hk, if_neg (hk ▸ Ne.symm h)]
      · rw [if_neg hk, if_neg hk]

theorem mem_keys_iff (m : List (String × String)) (k : String) : k ∈ m.map (·.1) ↔ (lookup m k).isSome := by
  simp only [lookup, List.lookup_isSome_iff, List.mem_map, beq_iff_eq]
  exact exists_congr fun _ => and_congr_right fun _ => eq_comm

theorem loop_isOk_iff (render : String → RenderRes) (infx tpl : String) (ps : List String) (acc : List (String × String)) :
    (∃ res, renderPartialsLoop render infx tpl ps acc = .ok res) ↔ ∀ p ∈ ps, ∃ out, render (tpl ++ infx ++ p) = .ok out := by
  induction ps generalizing acc with
  | nil => exact ⟨fun _ => nofun, fun _ => ⟨acc, rfl⟩⟩
  | cons p ps ih =>
    rw [renderPartialsLoop, List.forall_mem_cons]
    cases render (tpl ++ infx ++ p) with
    | error e => exact ⟨nofun, fun h => nomatch h.1⟩
    | ok out => exact (ih _).trans ⟨fun h => ⟨⟨out, rfl⟩, h⟩, fun h => h.2⟩

/-- **the result as a function of the key**: the accumulator, overridden on the requested names by what `render` gives for
each on its own -/
theorem loop_lookup (render : String → RenderRes) (infx tpl : String) (ps : List String) (acc res : List (String × String))
    (h : renderPartialsLoop render infx tpl ps acc = .ok res) (k : String) :
    lookup res k = if k ∈ ps then (render (tpl ++ infx ++ k)).toOption else lookup acc k := by
  induction ps generalizing acc with
  | nil => cases h; simp
  | cons p ps ih =>
    simp only [renderPartialsLoop] at h
    split at h
    · cases h
    · rename_i out hr
      rw [ih _ h, lookup_mapSet]
      by_cases hk : k ∈ ps
      · simp [hk]
      · by_cases hp : k = p <;> simp [hk, hp, hr, Except.toOption]

/-- **C17 (success half).** If the call succeeds, the result has exactly the requested keys and under each
key exactly what `Render` returns for `T ++ ".partial/" ++ p` on its own. Duplicates, order and the empty
list are covered by the statement. The infix is the one read from engine.go. -/
theorem C17_ok (render : String → RenderRes) (tpl : String) (ps : List String) (res : List (String × String))
    (h : renderPartials render Gen.partialInfix tpl ps = .ok res) :
    (∀ k, k ∈ res.map (·.1) ↔ k ∈ ps) ∧
    (∀ p ∈ ps, ∃ out, render (tpl ++ Gen.partialInfix ++ p) = .ok out ∧ lookup res p = some out) := by
  have h1 := (loop_isOk_iff ..).mp ⟨res, h⟩
  have h2 := loop_lookup _ _ _ _ _ _ h
  refine ⟨fun k => ?_, fun p hp => ?_⟩
  · rw [mem_keys_iff, h2 k]
    by_cases hk : k ∈ ps
    · obtain ⟨out, ho⟩ := h1 k hk; simp [hk, ho, Except.toOption]
    · simp [hk, lookup]
  · obtain ⟨out, ho⟩ := h1 p hp
    exact ⟨out, ho, by simp [h2 p, hp, ho, Except.toOption]⟩

/-- **C17 (all exist ⇒ success).** If every requested partial renders, the call succeeds. -/
theorem C17_total (render : String → RenderRes) (infx tpl : String) (ps : List String)
    (hall : ∀ p ∈ ps, ∃ out, render (tpl ++ infx ++ p) = .ok out) :
    ∃ res, renderPartials render infx tpl ps = .ok res :=
  (loop_isOk_iff ..).mpr hall

/-- **C17 (error half).** If any requested partial fails to render (does not exist, or fails), the call
reports an error; an `Except.error` carries no partial content at all. -/
theorem C17_err (render : String → RenderRes) (infx tpl : String) (ps : List String)
    (hbad : ∃ p ∈ ps, ∃ e, render (tpl ++ infx ++ p) = .error e) :
    ∃ e, renderPartials render infx tpl ps = .error e := by
  cases h : renderPartials render infx tpl ps with
  | error e => exact ⟨e, rfl⟩
  | ok res =>
    obtain ⟨p, hp, e, he⟩ := hbad
    obtain ⟨out, ho⟩ := (loop_isOk_iff ..).mp ⟨res, h⟩ p hp
    rw [ho] at he; cases he

/-- the naming rule read from the source is the documented one -/
theorem C17_infix : Gen.partialInfix_ok = true ∧ Gen.partialInfix = ".partial/" := ⟨rfl, rfl⟩

/-- non-vacuity: a concrete request list with a duplicate meets the hypothesis of `C17_ok` -/
example : renderPartials (fun n => .ok ("<" ++ n ++ ">")) ".partial/" "T" ["a", "b", "a"]
    = .ok [("a", "<T.partial/a>"), ("b", "<T.partial/b>")] := by
  simp [renderPartials, renderPartialsLoop, mapSet]

/-- **C17 (the model's tie to `Engine.RenderPartials`).** The control skeleton regenerated from pugjs/engine.go: one loop over the
requested names, one Render per name, the first error returned at once with no content, the map returned at the end - nothing
else decides what the result holds. -/
theorem C17_render_partials_skeleton :
    Gen.renderSkeleton_ok = true ∧
    (Gen.renderSkeleton.filter fun r => r.1 == "RenderPartials") =
      [("RenderPartials", "0 range partials"), ("RenderPartials", "1 if err != nil"), ("RenderPartials", "2 return nil, err"),
       ("RenderPartials", "0 return res, nil")] :=
  ⟨rfl, rfl⟩

/-- **C17 (… and to `Engine.Render`, which every partial goes through).** A failing partial leaves `Render` by one of its error
returns; that those exits (and a panic) give back what the call took - the rate-limit slot - is the skeleton the gate model of C09
mirrors: the deferred release stands directly behind the acquisition, before every later `return`. -/
theorem C17_render_skeleton :
    Gen.renderSkeleton_ok = true ∧ Gen.renderSkeleton = Pug.Props.C09.expectedRenderSkeleton :=
  Pug.Props.C09.C09_render_skeleton

/-- **C17 (no state outlives a render or a compilation in package variables).** `C08_package_state_inventory`, restated so that THIS property's check
fails on it before any input is drawn. -/
theorem C17_package_state_inventory :
    Gen.pkgState_ok = true ∧ Gen.pkgState.all (fun v => Pug.Props.C08.knownPkgState.contains v) = true :=
  Pug.Props.C08.C08_package_state_inventory

end Pug.Props.C17
