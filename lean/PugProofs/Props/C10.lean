import PugModel.Sys.Loader
import PugModel.Gen.Tables
/-!
# C10 — template loading: every AST file addressable; loads atomic and concurrency-safe

Sequential facts (names, frozen set in production, recovery after a failed load) and, for EVERY number of concurrent first
renders and EVERY interleaving at lock granularity:
* production mode: every render returns what a single render after a single load would return — nobody gets the
  "preload again" error (C10_prod_all_succeed);
* debug mode: every render returns the current content of its own template (or not-found), whatever other templates are
  rendered concurrently (C10_debug_no_hiding).
-/
namespace Pug.Props.C10
open Pug.Sys

def Unbroken (files : Files) : Prop := ∀ f ∈ files, f.2.isSome = true

/-- what a render of `name` must return over these files -/
def expected (files : Files) (name : String) : LRes := lookupT (some (pairsOf files)) name

theorem compile_unbroken (files : Files) (h : Unbroken files) (filter : String) :
    compile files filter = some (pairsOf (files.filter (fun f => selected filter f.1))) :=
  if_pos (List.all_eq_true.mpr fun f hf => h f (List.mem_filter.mp hf).1)

theorem filter_all (files : Files) : files.filter (fun f => selected "" f.1) = files :=
  List.filter_eq_self.mpr fun _ _ => rfl

theorem compile_all (files : Files) (h : Unbroken files) : compile files "" = some (pairsOf files) := by
  rw [compile_unbroken files h, filter_all]

/-- **C10 (production: loaded once, frozen).** Once loaded, a production render neither reloads nor looks at the files. -/
theorem C10_prod_frozen (s : LState) (hd : s.debug = false) (hl : s.loaded = true) (name : String) (files' : Files) :
    render s name = (lookupT s.templates name, s) ∧
    (render { s with files := files' } name).1 = lookupT s.templates name := by
  simp [render, hd, hl]

/-- **C10 (a failed load reports the failure and leaves the engine able to load again).** -/
theorem C10_failed_load_recovers (s : LState) (filter : String) (hnl : s.loaded = false)
    (hfail : compile s.files filter = none) (files' : Files) (hfix : Unbroken files') :
    (loadTemplates s filter).1 = false ∧ (loadTemplates s filter).2.loaded = false ∧
    (loadTemplates { (loadTemplates s filter).2 with files := files' } "").1 = true := by
  simp [loadTemplates, hnl, hfail, compile_all files' hfix]

theorem hasPrefix_self (s : String) : hasPrefix s s = true := by
  simp [hasPrefix]

theorem selected_self (n : String) : selected n n = true := by
  rw [selected, hasPrefix_self, Bool.or_true]

theorem pairsOf_filter (q : String → Bool) (files : Files) :
    pairsOf (files.filter fun f => q f.1) = (pairsOf files).filter fun t => q t.1 := by
  unfold pairsOf
  rw [List.filterMap_filter, List.filter_filterMap]
  congr; funext f
  cases f.2 <;> simp [Option.filter]

theorem find?_filter_key {α} (q : String → Bool) (l : List (String × α)) (n : String) :
    (l.filter fun t => q t.1).find? (·.1 == n) = if q n then l.find? (·.1 == n) else none := by
  have : ∀ a : String × α, decide (q a.1 = true ∧ (a.1 == n) = true) = (q n && a.1 == n) := by
    intro a; by_cases h : a.1 = n <;> simp [h]
  rw [List.find?_filter]; simp only [this]
  cases q n <;> simp

/-- Refreshing the entries whose name satisfies `q`: those names are answered from the files, the others from the old set.
Neither uniqueness of names nor anything about `q` is needed: both sides take the first entry with the name. -/
theorem lookupT_refresh (q : String → Bool) (old : List (String × String)) (files : Files) (n : String) :
    lookupT (some (old.filter (fun t => !q t.1) ++ pairsOf (files.filter fun f => q f.1))) n =
      if q n then expected files n else lookupT (some old) n := by
  unfold expected lookupT
  simp only [List.find?_append, pairsOf_filter, find?_filter_key q, find?_filter_key (fun x => !q x)]
  cases q n <;> simp

/-- `LoadTemplates` over unbroken files is either refused (a full load of a loaded set; nothing changes) or succeeds, and
then answers the names below the filter from the files and all others as before (no set yet counts as the empty set). -/
theorem load_spec (s : LState) (hu : Unbroken s.files) (f : String) :
    (s.loaded = true ∧ f = "" ∧ loadTemplates s f = (false, s)) ∨
    ∃ ts, loadTemplates s f = (true, { s with loaded := true, templates := some ts }) ∧
      ∀ n, lookupT (some ts) n = if selected f n then expected s.files n else lookupT s.templates n := by
  by_cases hf : f = ""
  · subst hf
    cases hl : s.loaded
    · refine .inr ⟨pairsOf s.files, ?_, fun n => (if_pos rfl).symm⟩
      rw [loadTemplates, hl, if_neg nofun, compile_all s.files hu]
      cases s.templates <;> rfl
    · exact .inl ⟨rfl, rfl, if_pos (by rw [hl]; rfl)⟩
  · have hf' : (f == "") = false := beq_eq_false_iff_ne.mpr hf
    refine .inr ⟨(s.templates.getD []).filter (fun t => !selected f t.1) ++
      pairsOf (s.files.filter fun x => selected f x.1), ?_, fun n => ?_⟩
    · simp only [loadTemplates, hf', compile_unbroken s.files hu, selected, Bool.and_false]
      cases s.templates <;> rfl
    · rw [lookupT_refresh]; cases s.templates <;> rfl

/-- **C10 (names).** After a full load of unbroken files, a name is renderable exactly when it is a file's relative path
without the suffix, and it yields that file's template; any other name is not-found. -/
theorem C10_names (debug : Bool) (files : Files) (h : Unbroken files) (name : String) :
    let s : LState := { debug := debug, files := files, loaded := false, templates := none }
    (loadTemplates s "").1 = true ∧ lookupT (loadTemplates s "").2.templates name = expected files name := by
  intro s
  obtain ⟨hl, _⟩ | ⟨ts, hload, hts⟩ := load_spec s h ""
  · cases hl
  · rw [hload]; exact ⟨rfl, (hts name).trans (if_pos rfl)⟩

/-- what a thread's position promises: at `lookup` the shared set already answers its name as the files do -/
def Ok (files : Files) (b : LState) : String × PC → Prop
  | (name, .lookup) => lookupT b.templates name = expected files name
  | (name, .done r) => r = expected files name
  | _ => True

theorem Ok.mono {files : Files} {b b' : LState}
    (h : ∀ n, lookupT b.templates n = expected files n → lookupT b'.templates n = expected files n) :
    ∀ {p}, Ok files b p → Ok files b' p
  | (n, .lookup), hp => h n hp
  | (_, .done _), hp => hp
  | (_, .start), _ => trivial
  | (_, .wantLoad), _ => trivial

/-- `full` is what production mode relies on (a loaded set is complete), `named` what debug mode relies on (a render of ""
would ask for a full load and be refused) -/
structure Inv (files : Files) (s : CState) : Prop where
  files_eq : s.base.files = files
  full : s.base.debug = false → s.base.loaded = true → ∀ n, lookupT s.base.templates n = expected files n
  named : s.base.debug = true → ∀ p ∈ s.threads, p.1 ≠ ""
  ok : ∀ p ∈ s.threads, Ok files s.base p

theorem forall_mem_set {α} {l : List α} {b : α} {Q : α → Prop} (h : ∀ p ∈ l, Q p) (hb : Q b) (i : Nat) :
    ∀ p ∈ l.set i b, Q p :=
  fun p hp => (List.mem_or_eq_of_mem_set hp).elim (h p) (· ▸ hb)

/-- the shape of every step: thread `i` moves on, the shared state goes to a `b'` that keeps every good answer -/
theorem Inv.update {files : Files} {s : CState} {name : String} {pc : PC} (hi : Inv files s)
    (hmem : (name, pc) ∈ s.threads) {b' : LState} {pc' : PC} {i : Nat}
    (hfiles : b'.files = files) (hdebug : b'.debug = s.base.debug)
    (hfull : b'.debug = false → b'.loaded = true → ∀ n, lookupT b'.templates n = expected files n)
    (hkeep : ∀ n, lookupT s.base.templates n = expected files n → lookupT b'.templates n = expected files n)
    (hok : Ok files b' (name, pc')) :
    Inv files { base := b', threads := s.threads.set i (name, pc') } where
  files_eq := hfiles
  full := hfull
  named hd := have h := hi.named (hdebug ▸ hd); forall_mem_set h (b := (name, pc')) (h (name, pc) hmem) i
  ok := forall_mem_set (fun p hp => (hi.ok p hp).mono hkeep) hok i

theorem Inv.move {files : Files} {s : CState} {name : String} {pc : PC} (hi : Inv files s)
    (hmem : (name, pc) ∈ s.threads) {pc' : PC} {i : Nat} (hok : Ok files s.base (name, pc')) :
    Inv files { base := s.base, threads := s.threads.set i (name, pc') } :=
  hi.update hmem hi.files_eq rfl hi.full (fun _ h => h) hok

theorem Inv.step {files : Files} (hu : Unbroken files) {s s' : CState} {i : Nat} (hi : Inv files s)
    (hs : cstep s i = some s') : Inv files s' := by
  unfold cstep at hs
  split at hs
  · cases hs
  next name pc hget =>
    have hmem : (name, pc) ∈ s.threads := List.mem_of_getElem? hget
    cases pc with
    | start =>
      dsimp only at hs
      split at hs
      · cases hs; exact hi.move hmem trivial
      next hd =>
        split at hs
        next hl => cases hs; exact hi.move hmem (hi.full (Bool.not_eq_true _ ▸ hd) hl name)
        · cases hs; exact hi.move hmem trivial
    | wantLoad =>
      dsimp only at hs
      rcases load_spec s.base (hi.files_eq ▸ hu) (if s.base.debug then name else "") with
        ⟨hl, hf, h⟩ | ⟨ts, h, hts⟩ <;> rw [h] at hs
      · -- refused: "another first render won"; cannot happen in debug mode
        cases hd : s.base.debug
        · rw [hd, hl] at hs
          cases hs
          exact hi.move hmem (hi.full hd hl name)
        · rw [hd] at hf
          exact absurd hf (hi.named hd _ hmem)
      · simp only [Bool.true_or, ite_self, Option.some.injEq] at hs
        subst hs
        rw [hi.files_eq] at hts
        refine hi.update hmem hi.files_eq rfl ?_ ?_ ?_
        · intro hd _ n
          rw [hts, show s.base.debug = false from hd]
          rfl
        · intro n hn; rw [hts, hn, ite_self]
        · show lookupT (some ts) name = expected files name
          rw [hts, if_pos]
          cases s.base.debug
          · rfl
          · exact selected_self name
    | lookup => cases hs; exact hi.move hmem (hi.ok (name, .lookup) hmem)
    | done r => cases hs

theorem Inv.run {files : Files} (hu : Unbroken files) {s : CState} (hi : Inv files s) (sched : List Nat) :
    Inv files (crun s sched) := by
  induction sched generalizing s with
  | nil => exact hi
  | cons i rest ih =>
    unfold crun
    split
    · next hs => exact ih (hi.step hu hs)
    · exact ih hi

theorem Inv.done {files : Files} {s : CState} (hi : Inv files s) :
    ∀ p ∈ s.threads, ∀ r, p.2 = .done r → r = expected files p.1
  | (_, _), hp, _, rfl => hi.ok _ hp

theorem Inv.cold (debug : Bool) (files : Files) (names : List String) (hn : debug = true → ∀ n ∈ names, n ≠ "") :
    Inv files (CState.cold debug files names) where
  files_eq := rfl
  full _ h := nomatch h
  named hd p hp := by obtain ⟨n, hn', rfl⟩ := List.mem_map.mp hp; exact hn hd n hn'
  ok p hp := by obtain ⟨n, _, rfl⟩ := List.mem_map.mp hp; trivial

/-- **C10 (production, concurrent first renders).** For every set of first renders and every interleaving, a render that
has finished returned what it would have returned alone: the template's content or not-found — never the "preload again" error. -/
theorem C10_prod_all_succeed (files : Files) (hu : Unbroken files) (names : List String) (sched : List Nat) :
    ∀ p ∈ (crun (CState.cold false files names) sched).threads, ∀ r, p.2 = .done r → r = expected files p.1 :=
  ((Inv.cold false files names nofun).run hu sched).done

def UniqueNames (files : Files) : Prop := ∀ a ∈ pairsOf files, ∀ b ∈ pairsOf files, a.1 = b.1 → a = b

set_option linter.unusedVariables false in -- `hun`: a lookup takes the first entry of a name, in the set as in the files
/-- **C10 (debug, concurrent renders do not hide each other).** For every set of concurrent debug renders (any names, also
prefix-related ones) and every interleaving, a finished render returned the current content of its own template, or
not-found when there is no such file. -/
theorem C10_debug_no_hiding (files : Files) (hu : Unbroken files) (hun : UniqueNames files) (names : List String)
    (hnames : ∀ n ∈ names, n ≠ "") (sched : List Nat) :
    ∀ p ∈ (crun (CState.cold true files names) sched).threads, ∀ r, p.2 = .done r → r = expected files p.1 :=
  ((Inv.cold true files names fun _ => hnames).run hu sched).done

/-- naming constants read from engine.go -/
theorem C10_naming : Gen.astSuffix = ".ast.json" ∧ Gen.pageDir = ["template", "page"] ∧ Gen.astSuffix_ok = true :=
  ⟨rfl, rfl, rfl⟩

/-! non-vacuity: two concurrent first renders, the second one loses the race for the lock -/
example : ((crun (CState.cold false [("a", some "A"), ("b", some "B")] ["a", "b"]) [0, 1, 0, 1, 0, 1]).threads.map (·.2))
    = [PC.done (.ok "A"), PC.done (.ok "B")] := by decide +kernel

/-! ## the two loading functions, as the model was written against them

`Gen.loadSkeleton` is the control skeleton of `Engine.LoadTemplates` and `Engine.compileDir` - every `if` condition, loop header,
`defer`, `return`, `continue` and the place where the compiler state is constructed, with nesting depth, in source order -
regenerated from pugjs/engine.go on every run. The loading model above (load once in production, reset of the loaded flag on a
failed load, the string-prefix filter in the walk AND in the refresh of a filtered load, one compiler state per template file)
mirrors exactly this skeleton; a changed condition, an added early return, a moved constructor reopens the obligation. -/

def expectedLoadSkeleton : List (String × String) :=
  [("LoadTemplates", "0 defer e.Unlock"),
   ("LoadTemplates", "0 if !atomic.CompareAndSwapInt32(&e.templatesLoaded, 0, 1) && filtername == \"\""),
   ("LoadTemplates", "1 return errors.New(\"Can not preload all templates again\")"),
   ("LoadTemplates", "0 if err == nil"),
   ("LoadTemplates", "0 if err != nil"),
   ("LoadTemplates", "1 return err"),
   ("LoadTemplates", "0 if filtername == \"\" || e.templates == nil"),
   ("LoadTemplates", "0 else "),
   ("LoadTemplates", "1 range e.templates"),
   ("LoadTemplates", "2 if strings.HasPrefix(name, filtername)"),
   ("LoadTemplates", "1 range templates"),
   ("LoadTemplates", "0 if e.CheckWebpack1337"),
   ("LoadTemplates", "1 if err == nil"),
   ("LoadTemplates", "0 return nil"),
   ("compileDir", "0 if err != nil"),
   ("compileDir", "1 return nil, err"),
   ("compileDir", "0 defer dir.Close"),
   ("compileDir", "0 if err != nil"),
   ("compileDir", "1 return nil, err"),
   ("compileDir", "0 range filenames"),
   ("compileDir", "1 if filename.IsDir()"),
   ("compileDir", "2 if err != nil"),
   ("compileDir", "3 return nil, err"),
   ("compileDir", "2 range tpls"),
   ("compileDir", "3 if result[k] == nil"),
   ("compileDir", "1 else "),
   ("compileDir", "2 if strings.HasSuffix(filename.Name(), \".ast.json\")"),
   ("compileDir", "3 if filtername != \"\" && !strings.HasPrefix(name, filtername)"),
   ("compileDir", "4 continue "),
   ("compileDir", "3 new renderState"),
   ("compileDir", "3 range e.FuncProvider()"),
   ("compileDir", "3 if err != nil"),
   ("compileDir", "4 return nil, err"),
   ("compileDir", "3 if err != nil"),
   ("compileDir", "4 return nil, err"),
   ("compileDir", "0 return result, nil")]

/-- **C10 (the model's tie to the loading code).** -/
theorem C10_load_skeleton : Gen.loadSkeleton_ok = true ∧ Gen.loadSkeleton = expectedLoadSkeleton :=
  ⟨rfl, rfl⟩

/-- one compiler state (mixin registry, block counter, raw-mode flag) per template FILE: the only construction stands inside the
loop over the directory's files, behind the suffix and filter tests (depth 3) -/
theorem C10_state_per_template :
    (Gen.loadSkeleton.filter fun r => r.2 == "3 new renderState" || r.2 == "0 new renderState" || r.2 == "1 new renderState" ||
      r.2 == "2 new renderState" || r.2 == "4 new renderState") = [("compileDir", "3 new renderState")] := by
  decide +kernel

end Pug.Props.C10
