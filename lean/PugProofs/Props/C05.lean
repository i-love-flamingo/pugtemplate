import PugModel.Tpl.Exec
import PugModel.Gen.Tables
import PugProofs.Escape
import PugProofs.Lists
/-!
# C05 — attributes: values escaped, booleans/null handled, classes merged, order kept

Theorems about `renderAttrs`, the model of runtime.go's `__attrs` (tied to the code by the correspondence check, whose
oracle re-parses the real output with the golang.org/x/net/html tokenizer):
for EVERY attribute name and EVERY value string
* a false / null / undefined record omits the attribute (C05_false_omitted),
* a true record renders `name="name"` (C05_true_named),
* a string/number record renders `name="…"` with the value escaped and otherwise untouched — no trimming (C05_value_escaped),
* the escaped value contains no `"` (nor `<`, `>`, `'`), so the parser cannot be made to end the value early or to see an
  extra attribute or element (C05_value_no_quote).
-/
namespace Pug.Props.C05
open Pug Pug.Tpl

/-- the model follows the code in trimming only the merged class value -/
theorem C05_trim_only_class : attrsTrimAll = false := rfl

theorem collect_single (r : AttrRec) : attrCollect [r] = attrStep [] r := rfl

theorem renderAttrs_one {recs : List AttrRec} {n : String} {vs : List TmpAttr} (h : attrCollect recs = [(n, vs)]) :
    renderAttrs recs = attrRenderOne n vs := by
  simp [renderAttrs, h, String.join]

theorem renderAttrs_single (r : AttrRec) : renderAttrs [r] = attrRenderOne r.1 [attOf r] :=
  renderAttrs_one (collect_single r)

/-- a plain (non-`class`) attribute with one value: omitted for `false`, else the value between quotes, untrimmed -/
theorem attrRenderOne_plain {n : String} (hc : n ≠ "class") (esc : Bool) (val : String) (b : Option Bool) :
    attrRenderOne n [(esc, val, b)] =
      if b = some false then "" else " " ++ n ++ "=\"" ++
        (if esc then stdHtmlEscape val
         else if val.toList.head? == some '"' then String.ofList ((val.toList.drop 1).dropLast) else "") ++ "\"" := by
  simp [attrRenderOne, hc, attrsTrimAll]

/-- **C05 (false / null / undefined ⇒ omitted).** -/
theorem C05_false_omitted (n v : String) (e : Bool) : renderAttrs [(n, some false, v, e)] = "" := by
  rw [renderAttrs_single, attOf]
  by_cases hc : n = "class"
  · -- the only class entry is dropped, and an empty class value gives no attribute
    subst hc
    have : trimSpaceStr "" = "" := by decide
    simp [attrRenderOne, this]
  · rw [attrRenderOne_plain hc]; rfl

/-- **C05 (true ⇒ name="name").** For every name other than `class`: a true boolean renders the attribute with its own name
as the value (escaped like any value). -/
theorem C05_true_named (n v : String) (hc : n ≠ "class") :
    renderAttrs [(n, some true, v, true)] = " " ++ n ++ "=\"" ++ stdHtmlEscape n ++ "\"" := by
  rw [renderAttrs_single, attOf, attrRenderOne_plain hc]; rfl

/-- **C05 (string / number values).** For every name other than `class` and every value, the attribute is emitted once as
`name="escape(value)"`; the value is not trimmed or otherwise altered. -/
theorem C05_value_escaped (n v : String) (hc : n ≠ "class") :
    renderAttrs [(n, none, v, true)] = " " ++ n ++ "=\"" ++ stdHtmlEscape v ++ "\"" := by
  rw [renderAttrs_single, attOf, attrRenderOne_plain hc]; rfl

/-! ## order and merging, for every record list -/

/-- names in order of FIRST occurrence -/
def firstOcc (acc : List String) : List String → List String
  | [] => acc
  | n :: rest => firstOcc (if acc.any (· == n) then acc else acc ++ [n]) rest

theorem find_iff_any (acc : List (String × List TmpAttr)) (n : String) :
    (acc.find? (·.1 == n)).isSome = (acc.map (·.1)).any (· == n) := by
  rw [List.isSome_find?, List.any_map]; rfl

theorem step_names (acc : List (String × List TmpAttr)) (r : AttrRec) :
    (attrStep acc r).map (·.1) =
      (if (acc.map (·.1)).any (· == r.1) then acc.map (·.1) else acc.map (·.1) ++ [r.1]) := by
  rw [← find_iff_any, attrStep]
  cases acc.find? (·.1 == r.1) with
  | none => simp
  | some p =>
    -- a known name: `acc` itself, or `acc` with that entry's values replaced
    simp only [Option.isSome_some, if_true]
    split
    · split
      · rfl
      · exact map_fst_replace acc r.1 _
    · exact map_fst_replace acc r.1 _

/-- **C05 (source order kept).** For EVERY list of attribute records: the attributes come out in the order in which their
names FIRST occur; a repeated name never moves or duplicates an attribute. -/
theorem C05_order_first_occurrence (recs : List AttrRec) :
    (attrCollect recs).map (·.1) = firstOcc [] (recs.map (·.1)) := by
  have gen : ∀ (recs : List AttrRec) (acc : List (String × List TmpAttr)),
      (recs.foldl attrStep acc).map (·.1) = firstOcc (acc.map (·.1)) (recs.map (·.1)) := by
    intro recs
    induction recs with
    | nil => intro acc; rfl
    | cons r rest ih =>
      intro acc
      simp only [List.foldl_cons, List.map_cons, firstOcc]
      rw [ih, step_names]
  exact gen recs []

/-- **C05 (a repeated plain attribute: the last value wins).** -/
theorem C05_last_value_wins (n v1 v2 : String) (hc : n ≠ "class") :
    renderAttrs [(n, none, v1, true), (n, none, v2, true)] = " " ++ n ++ "=\"" ++ stdHtmlEscape v2 ++ "\"" := by
  rw [renderAttrs_one (n := n) (vs := [(true, v2, none)]) (by simp [attrCollect, attrStep, attOf, hc]), attrRenderOne_plain hc]
  rfl

/-- **C05 (class values accumulate).** Two different class records are both kept, in order. -/
theorem C05_class_accumulates (v1 v2 : String) (hne : v1 ≠ v2) :
    attrCollect [("class", none, v1, true), ("class", none, v2, true)] =
      [("class", [(true, v1, none), (true, v2, none)])] := by
  have : ((true, v1, (none : Option Bool)) == (true, v2, (none : Option Bool))) = false := by
    simp [hne]
  simp [attrCollect, attrStep, attOf, List.foldl, List.find?, this]

def sig (c : Char) : Bool := c == '<' || c == '>' || c == '"' || c == '\''

/-- **C05 (the value cannot break out).** No `"`, `'`, `<` or `>` occurs in an escaped attribute value, for every string. -/
theorem C05_value_no_quote (v : List Char) : ∀ d ∈ escapeWith stdHtmlEscapeTable v, sig d = false :=
  escapeWith_safe (by decide +kernel) (markup_isKey (by decide +kernel)) v

/-! non-vacuity / worked examples on the model -/
example : renderAttrs [("title", none, " pad <x>\"", true), ("hidden", some true, "", false), ("id", some false, "", false)]
    = " title=\" pad &lt;x&gt;&#34;\" hidden=\"hidden\"" := by decide +kernel
example : renderAttrs [("class", none, "a", true), ("id", none, "i", true), ("class", none, "b c", true), ("class", some false, "", false)]
    = " class=\"a b c\" id=\"i\"" := by decide +kernel

/-! ## the code the model mirrors, by its control skeleton

`Gen.attrSkeleton`: `attrOf` and `classNames` (pugjs/runtime.go): which kinds of value give a boolean record, an omitted record, a class list, a text; the control skeleton (conditions, loop headers, returns, in source order with nesting depth; regenerated on every run)
the attribute record model (`attrRecOf`, `classNamesOf`) was written against. -/

def expected_attrSkeleton : List (String × String) :=
  [("attrOf", "0 if ok"),
   ("attrOf", "1 return []Attribute{…}"),
   ("attrOf", "0 if ok"),
   ("attrOf", "1 return []Attribute{…}"),
   ("attrOf", "0 if ok || v == nil"),
   ("attrOf", "1 return []Attribute{…}"),
   ("attrOf", "0 if ok && k == \"class\""),
   ("attrOf", "1 return []Attribute{…}"),
   ("attrOf", "0 if ok"),
   ("attrOf", "1 return []Attribute{…}"),
   ("attrOf", "0 if ok"),
   ("attrOf", "1 return []Attribute{…}"),
   ("attrOf", "0 return []Attribute{…}"),
   ("classNames", "0 typeswitch "),
   ("classNames", "1 case *Array"),
   ("classNames", "2 range v.items"),
   ("classNames", "2 return out"),
   ("classNames", "1 case Bool"),
   ("classNames", "2 if !bool(v)"),
   ("classNames", "3 return out"),
   ("classNames", "1 case Nil, nil"),
   ("classNames", "2 return out"),
   ("classNames", "0 if ok"),
   ("classNames", "1 return append(out, o.String())"),
   ("classNames", "0 return append(out, fmt.Sprintf(\"%v\", v))")]

/-- **C05 (the model's tie to the code, by shape).** -/
theorem C05_attr_skeleton : Gen.attrSkeleton_ok = true ∧ Gen.attrSkeleton = expected_attrSkeleton :=
  ⟨rfl, rfl⟩

end Pug.Props.C05
