import PugModel.JS.ParseFunction
import PugModel.Gen.Tables
/-!
# C15 — the JavaScript snippet parser accepts or rejects every input without crashing

What is PROVED here is the part that is logic over a parse result: `ParseFunction`'s extraction of the function literal, in
the shape read from otto/parser/parser.go, returns a tree or an error for EVERY program the parser can hand it (the body text
may close the wrapper and continue with statements of its own) — it cannot panic.
What is NOT proved: termination and panic-freedom of the hand-written lexer and of the statement/expression parser
themselves; they are exercised by the differential fuzzing of the correspondence check (see DESIGN.md §5 C15) — that is
validation of the real code, not a theorem.
-/
namespace Pug.Props.C15
open Pug.JS

theorem C15_extract : Gen.parseFunctionShape_ok = true := by decide

/-- The checked shape, whole: a tree for the one body that is a function literal, an error for anything else. -/
theorem extractFunction_checked (parseErr : Bool) (body : List StmtKind) :
    extractFunction "checked" parseErr body =
      if parseErr = false ∧ body = [.expression .functionLiteral] then .tree else .error := by
  cases parseErr
  · show (match body with | [.expression .functionLiteral] => PFResult.tree | _ => .error) = _
    split
    · exact (if_pos ⟨rfl, rfl⟩).symm
    · exact (if_neg fun h => ‹_ → False› h.2).symm
  · rfl

/-- **C15 (ParseFunction never panics on a parse result).** -/
theorem C15_parseFunction_total (parseErr : Bool) (body : List StmtKind) :
    extractFunction Gen.parseFunctionShape parseErr body ≠ .panic := by
  rw [show Gen.parseFunctionShape = "checked" from rfl, extractFunction_checked]
  split <;> nofun

/-- a tree is returned exactly for the one shape that IS a function: a single expression statement holding a function literal -/
theorem C15_parseFunction_tree_iff (body : List StmtKind) :
    extractFunction Gen.parseFunctionShape false body = .tree ↔ body = [.expression .functionLiteral] := by
  rw [show Gen.parseFunctionShape = "checked" from rfl, extractFunction_checked]
  split
  · exact iff_of_true rfl ‹_ ∧ _›.2
  · exact iff_of_false nofun (mt (And.intro rfl) ‹_›)

/-- the unchecked shape does panic — on the parse result of the body `return 1}), (function(){` (a sequence expression) -/
example : extractFunction "unchecked" false [.expression .sequence] = .panic := by decide

end Pug.Props.C15
