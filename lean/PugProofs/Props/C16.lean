import PugModel.Sys.Startup
import PugModel.Gen.Tables
import PugProofs.Lists
/-!
# C16 — the readiness endpoint says ready only after all startup work has ended

All theorems quantify over EVERY number of processes, EVERY completion order, EVERY failing subset and EVERY interleaving of
completions, Finish, the waiter's and the listener's steps.
-/
namespace Pug.Props.C16
open Pug.Sys

/-- once the waiter is past eg.Wait(), every process has ended; the kept error is a failed process; what the listener got is
that error (or nil only after the channel was closed without an error being pending) -/
structure Inv (s : SState) : Prop where
  ended : (s.waiter = .sending ∨ s.waiter = .closed) → s.allEnded = true
  sendErr : s.waiter = .sending → s.firstErr.isSome = true
  errFailed : ∀ p, s.firstErr = some p → (p, PStat.failed) ∈ s.procs
  noErrNoFail : s.firstErr = none → ∀ q ∈ s.procs, q.2 ≠ .failed
  got : ∀ g, s.listenerGot = some g → s.waiter = .closed ∧ (g = s.firstErr)
  closedGot : s.waiter = .closed → s.firstErr.isSome = true → s.listenerGot = some s.firstErr
  nodup : (s.procs.map (·.1)).Nodup

variable {s s' : SState} {e : SEv} {p : Nat} {fail : Bool}

theorem probe_eq_200 : s.probe = 200 ↔ s.waiter = .closed := by
  simp [SState.probe]

theorem finishCalled_iff : s.finishCalled = true ↔ s.waiter ≠ .notStarted := bne_iff_ne

/-! Each event's guard is an `if` in `Option`: enabled iff the guard holds, and then the result is the `some`. -/

theorem sstep_add : sstep s (.add p) = some s' ↔
    (s.waiter = .notStarted ∧ p ∉ s.procs.map (·.1)) ∧ { s with procs := s.procs ++ [(p, .running)] } = s' := by
  refine Option.ite_none_left_eq_some.trans (and_congr ?_ Option.some_inj)
  simp only [Bool.or_eq_true, not_or, finishCalled_iff, Decidable.not_not, List.any_eq_true, beq_iff_eq, List.mem_map]

theorem sstep_complete : sstep s (.complete p fail) = some s' ↔
    (∃ q ∈ s.procs, q.1 = p ∧ q.2 = .running) ∧
    { s with procs := s.procs.map (fun q => if q.1 == p then (p, if fail then .failed else .ok) else q),
             firstErr := if fail && s.firstErr.isNone then some p else s.firstErr } = s' := by
  refine Option.ite_none_right_eq_some.trans (and_congr (List.any_eq_true.trans ?_) Option.some_inj)
  simp only [Bool.and_eq_true, beq_iff_eq]

theorem sstep_finish : sstep s .finish = some s' ↔ s.waiter = .notStarted ∧ { s with waiter := .waiting } = s' :=
  Option.ite_none_right_eq_some.trans (and_congr beq_iff_eq Option.some_inj)

theorem sstep_waiterWake : sstep s .waiterWake = some s' ↔ (s.waiter = .waiting ∧ s.allEnded = true) ∧
    { s with waiter := if s.firstErr.isSome then .sending else .closed } = s' :=
  Option.ite_none_right_eq_some.trans
    (and_congr (Bool.and_eq_true_iff.trans (and_congr_left' beq_iff_eq)) Option.some_inj)

theorem sstep_listenerRecv : sstep s .listenerRecv = some s' ↔ s.listenerGot = none ∧
    (s.waiter = .sending ∧ { s with listenerGot := some s.firstErr, waiter := .closed } = s' ∨
     s.waiter = .closed ∧ { s with listenerGot := some none } = s') := by
  refine Option.ite_none_left_eq_some.trans (and_congr Option.not_isSome_iff_eq_none ?_)
  by_cases h : s.waiter = .sending <;> simp [h]

theorem srun_eq_foldlM (s : SState) (es : List SEv) : srun s es = es.foldlM sstep s := by
  induction es generalizing s with
  | nil => rfl
  | cons e es ih =>
    simp only [srun, List.foldlM_cons, ← ih]
    cases sstep s e <;> rfl

theorem mem_map_set {l : List (Nat × PStat)} {p : Nat} {st : PStat} {x : Nat × PStat}
    (h : x ∈ l.map (fun q => if q.1 == p then (p, st) else q)) : x = (p, st) ∨ x ∈ l := by
  obtain ⟨q, hq, rfl⟩ := List.mem_map.mp h
  split
  · exact .inl rfl
  · exact .inr hq

theorem allEnded_map_complete (procs : List (Nat × PStat)) (p : Nat) (st : PStat) (hst : st ≠ .running)
    (h : procs.all (fun q => q.2 != .running) = true) :
    (procs.map (fun q => if q.1 == p then (p, st) else q)).all (fun q => q.2 != .running) = true := by
  rw [List.all_eq_true] at h ⊢
  intro x hx
  rcases mem_map_set hx with rfl | hx
  · simpa using hst
  · exact h x hx

theorem inj_of_nodup_map {α β} {f : α → β} {l : List α} (hn : (l.map f).Nodup) {a b : α}
    (ha : a ∈ l) (hb : b ∈ l) (h : f a = f b) : a = b :=
  have hp := List.pairwise_map.mp hn
  List.Pairwise.forall_of_forall_of_flip (R := fun a b => f a = f b → a = b) (fun _ _ _ => rfl)
    (hp.imp fun hne h => absurd h hne) (hp.imp fun hne h => absurd h.symm hne) ha hb h

theorem inv_init : Inv SState.init := by
  constructor <;> simp [SState.init, SState.allEnded]

/-- `add` and `complete` happen before the waiter is past `eg.Wait()` and touch neither `waiter` nor `listenerGot`:
there only the three clauses about `procs` and `firstErr` say anything. -/
theorem Inv.of_not_past (hi : Inv s) (hnp : ¬(s.waiter = .sending ∨ s.waiter = .closed))
    {procs : List (Nat × PStat)} {firstErr : Option Nat}
    (errFailed : ∀ p, firstErr = some p → (p, PStat.failed) ∈ procs)
    (noErrNoFail : firstErr = none → ∀ q ∈ procs, q.2 ≠ .failed)
    (nodup : (procs.map (·.1)).Nodup) : Inv { s with procs, firstErr } where
  ended h := absurd h hnp
  sendErr h := absurd (.inl h) hnp
  errFailed := errFailed
  noErrNoFail := noErrNoFail
  got g h := absurd (.inr (hi.got g h).1) hnp
  closedGot h := absurd (.inr h) hnp
  nodup := nodup

theorem inv_step (hi : Inv s) (hs : sstep s e = some s') : Inv s' := by
  cases e with
  | add p =>
    obtain ⟨⟨hw, hfresh⟩, rfl⟩ := sstep_add.mp hs
    refine hi.of_not_past (by rw [hw]; decide) ?_ ?_ ?_
    · exact fun r hr => List.mem_append_left _ (hi.errFailed r hr)
    · exact fun h => List.forall_mem_append.mpr ⟨hi.noErrNoFail h, List.forall_mem_singleton.mpr nofun⟩
    · rw [List.map_append]
      exact nodup_snoc hi.nodup hfresh
  | complete p fail =>
    obtain ⟨⟨q, hq, rfl, hqr⟩, rfl⟩ := sstep_complete.mp hs
    -- `q` is still running, so the waiter is not past `eg.Wait()` and no failed entry has `q`'s id
    have hnp : ¬(s.waiter = .sending ∨ s.waiter = .closed) := fun h => by
      have := List.all_eq_true.mp (hi.ended h) q hq
      simp [hqr] at this
    have hne : ∀ r, (r, PStat.failed) ∈ s.procs → r ≠ q.1 := fun r hr h => by
      cases inj_of_nodup_map hi.nodup hr hq h
      cases hqr
    refine hi.of_not_past hnp ?_ ?_ ?_
    · intro r hr
      split at hr
      · rename_i hc
        cases hr
        rw [(Bool.and_eq_true_iff.mp hc).1]
        exact List.mem_map.mpr ⟨q, hq, if_pos (beq_self_eq_true _)⟩
      · have hm := hi.errFailed r hr
        exact List.mem_map.mpr ⟨_, hm, if_neg (mt beq_iff_eq.mp (hne r hm))⟩
    · intro h x hx
      split at h
      · cases h
      · rename_i hc
        rcases mem_map_set hx with rfl | hx
        · simp [h] at hc
          simp [hc]
        · exact hi.noErrNoFail h x hx
    · rw [map_fst_replace]
      exact hi.nodup
  | finish =>
    obtain ⟨hw, rfl⟩ := sstep_finish.mp hs
    exact { hi with
      ended := nofun
      sendErr := nofun
      got := fun g hg => nomatch hw.symm.trans (hi.got g hg).1
      closedGot := nofun }
  | waiterWake =>
    obtain ⟨⟨hw, hall⟩, rfl⟩ := sstep_waiterWake.mp hs
    exact { hi with
      ended := fun _ => hall
      sendErr := fun h => Decidable.by_contra fun hn => by simp [hn] at h
      got := fun g hg => nomatch hw.symm.trans (hi.got g hg).1
      closedGot := fun h hsome => by simp [hsome] at h }
  | listenerRecv =>
    obtain ⟨hl, ⟨hw, rfl⟩ | ⟨hw, rfl⟩⟩ := sstep_listenerRecv.mp hs
    · exact { hi with
        ended := fun _ => hi.ended (.inl hw)
        sendErr := nofun
        got := fun g hg => ⟨rfl, (Option.some.inj hg).symm⟩
        closedGot := fun _ _ => rfl }
    · -- nil is what the closed channel yields; an error cannot be pending: it would already have been received
      have hnone : s.firstErr = none := Option.not_isSome_iff_eq_none.mp fun h => by
        cases hl.symm.trans (hi.closedGot hw h)
      exact { hi with
        got := fun g hg => ⟨hw, hnone ▸ (Option.some.inj hg).symm⟩
        closedGot := fun _ h => by simp [hnone] at h }

theorem inv_run {es : List SEv} (hr : srun SState.init es = some s) : Inv s :=
  foldlM_invariant inv_step inv_init (srun_eq_foldlM .. ▸ hr)

/-- **C16 (safety).** The probe answers 200 only if Finish was called and every registered process has returned. -/
theorem C16_safe (es : List SEv) (s : SState) (hr : srun SState.init es = some s) (hp : s.probe = 200) :
    s.finishCalled = true ∧ s.allEnded = true := by
  have hc := probe_eq_200.mp hp
  exact ⟨finishCalled_iff.mpr (by rw [hc]; decide), (inv_run hr).ended (.inr hc)⟩

/-- **C16 (monotone).** No step leads from 200 back to 425. -/
theorem C16_monotone (s s' : SState) (e : SEv) (hs : sstep s e = some s') (hp : s.probe = 200) : s'.probe = 200 := by
  -- `done` stays closed: `finish` and `waiterWake` are no longer enabled, the other events leave `waiter` as it is
  rw [probe_eq_200] at hp ⊢
  cases e with
  | add p => obtain ⟨-, rfl⟩ := sstep_add.mp hs; exact hp
  | complete p fail => obtain ⟨-, rfl⟩ := sstep_complete.mp hs; exact hp
  | finish => cases (sstep_finish.mp hs).1.symm.trans hp
  | waiterWake => cases (sstep_waiterWake.mp hs).1.1.symm.trans hp
  | listenerRecv =>
    obtain ⟨-, ⟨-, rfl⟩ | ⟨-, rfl⟩⟩ := sstep_listenerRecv.mp hs
    · rfl
    · exact hp

set_option linter.unusedVariables false in -- `hi`: the two guards follow from the other hypotheses alone
/-- **C16 (liveness / no deadlock).** When Finish was called and all processes have returned, some internal step is enabled
until `done` is closed — given the listener the module attaches (it has not yet received). -/
theorem C16_live (s : SState) (hi : Inv s) (hf : s.finishCalled = true) (hall : s.allEnded = true)
    (hnot : s.waiter ≠ .closed) (hl : s.listenerGot = none) :
    (∃ s', sstep s .waiterWake = some s') ∨ (∃ s', sstep s .listenerRecv = some s') := by
  cases hw : s.waiter with
  | notStarted => exact absurd hw (finishCalled_iff.mp hf)
  | waiting => exact .inl ⟨_, sstep_waiterWake.mpr ⟨⟨hw, hall⟩, rfl⟩⟩
  | sending => exact .inr ⟨_, sstep_listenerRecv.mpr ⟨hl, .inl ⟨hw, rfl⟩⟩⟩
  | closed => exact absurd hw hnot

/-- **C16 (the first error, exactly once).** Whatever the listener received is the first failure (or nil when no process
failed), and it cannot receive a second time. -/
theorem C16_first_error_once (es : List SEv) (s : SState) (hr : srun SState.init es = some s) :
    (∀ g, s.listenerGot = some g → g = s.firstErr) ∧
    (s.listenerGot.isSome = true → sstep s .listenerRecv = none) ∧
    (∀ p, s.firstErr = some p → (p, PStat.failed) ∈ s.procs) :=
  have hi := inv_run hr
  ⟨fun g hg => (hi.got g hg).2, fun h => by simp [sstep, h], hi.errFailed⟩

/-- **C16 (the code has the modelled shape).** -/
theorem C16_shape : Gen.startupShape_ok = true ∧ (Gen.startupShape.all (·.2)) = true ∧ Gen.startupShape.length = 8 := by decide +kernel

/-! non-vacuity: two processes, the second fails first -/
example : (srun SState.init [.add 1, .add 2, .complete 2 true, .finish, .complete 1 true, .waiterWake, .listenerRecv]).map
    (fun s => (s.probe, s.listenerGot)) = some (200, some (some 2)) := by decide +kernel

end Pug.Props.C16
