import PugModel.Tpl.Compile
import PugProofs.Props.C10
import PugProofs.C13.Static
import PugProofs.C13.Deletes
import PugProofs.Props.C06
import PugProofs.Props.C08
/-!
# C13 — debug (pretty-source) mode changes white space only

The only thing debug mode adds to the emitted template is the separator `     {{- "" -}}⏎` after block-level nodes
(`Pug.Tpl.debugSep`, model of transform_tag.go). Proved for ALL neighbouring texts:
* the separator prints nothing (its action prints the empty string),
* its own five blanks and its line break never reach the output,
* what it removes from the neighbouring texts is white space only, at their facing edges, and nothing else changes.
Whole static documents, through the complete model pipeline in debug mode: the output is the reference serialisation - hence the
production output - with white-space characters deleted, none added or changed (`C13_static_debug_only_deletes`), so the two
agree once white space is removed (`C13_static_debug_render`, `C13_static_modes_agree`).
-/
namespace Pug.Props.C13
open Pug Pug.Tpl

/-- the separator's action prints the empty string and has both trim markers -/
theorem C13_sep_shape : debugSep = [.text "     ", .act true true (.print (.lit (.str "")) false), .text "\n"] := rfl

/-- the right trim marker of the separator eats its own line break and then only leading white space of the next text -/
theorem C13_sep_right (b : String) : trimLeftWs ("\n" ++ b) = trimLeftWs b :=
  Pug.Props.C13D.trimLeft_ws_append (by decide) b

/-- the left trim marker eats the separator's five blanks and then only trailing white space of the previous text -/
theorem C13_sep_left (a : String) : trimRightWs (a ++ "     ") = trimRightWs a :=
  Pug.Props.C13D.trimRight_append_ws (by decide) a

/-- trimming removes white space only: the trimmed text plus a block of white space is the original -/
theorem trimLeft_ws_only (s : List Char) : ∃ ws, (∀ c ∈ ws, isWs c = true) ∧ s = ws ++ s.dropWhile isWs :=
  ⟨s.takeWhile isWs, List.all_eq_true.mp List.all_takeWhile, List.takeWhile_append_dropWhile.symm⟩

theorem C13_trim_left_ws_only (b : String) :
    ∃ ws, (∀ c ∈ ws, isWs c = true) ∧ b.toList = ws ++ (trimLeftWs b).toList := by
  obtain ⟨ws, h1, h2⟩ := trimLeft_ws_only b.toList
  exact ⟨ws, h1, by simpa [trimLeftWs] using h2⟩

theorem C13_trim_right_ws_only (a : String) :
    ∃ ws, (∀ c ∈ ws, isWs c = true) ∧ a.toList = (trimRightWs a).toList ++ ws := by
  obtain ⟨ws, h1, h2⟩ := trimLeft_ws_only a.toList.reverse
  refine ⟨ws.reverse, by simpa using h1, ?_⟩
  simpa [trimRightWs] using congrArg List.reverse h2

/-- **C13 (local effect of a separator).** Between any two texts `a` and `b`, the fragments
`a ++ separator ++ b`, merged and trimmed, are: `a` without trailing white space, an action printing "", `b` without leading white space. -/
theorem C13_sep_effect (a b : String) :
    applyTrims (mergeTexts ([.text a] ++ debugSep ++ [.text b])) =
      [.text (trimRightWs a), .act true true (.print (.lit (.str "")) false), .text (trimLeftWs b)] := by
  simp only [debugSep, List.cons_append, List.nil_append, mergeTexts, applyTrims, if_true]
  rw [C13_sep_left, C13_sep_right]

/-! ## whole static documents, both modes, through the complete model pipeline -/

open Pug.Props.C13S Pug.Props.C13D Pug.Props.C06S Pug.Driver in
/-- **C13 (debug mode only DELETES white space, whole documents).** For EVERY static document and any page data: what the model
of LoadTemplates + Render prints with `Engine.Debug = true` is obtained from the reference serialisation - which is what production
mode prints (`C06_static_render`) - by deleting white-space characters (`WsDel`): debug mode never introduces a character that
production mode does not emit, and never changes one. The separator's own five blanks and line break are always inside what its
trim markers remove (`rel2_out`), and trimming only deletes white space (`wsdel_applyTrims`). -/
theorem C13_static_debug_only_deletes (doc : List Node) (data : Lean.Json) (h : staticListF nodeFuel doc = true) :
    ∃ frags, compileNodes { funcs := engineFuncs ++ [], parserFuncs := engineFuncs ++ [] ++ builtinNames, debug := true } doc = .ok frags ∧
      (frags.length + 2 < 100000000 →
        ∃ w, renderModel doc data [] true = okOut w ∧ WsDel w.toList (serListF nodeFuel doc).toList) := by
  obtain ⟨frags, h1, h2, h3⟩ := debug_out_wsdel (renderEnv true) rfl doc h
  refine ⟨frags, h1, fun hlen => ⟨_, ?_, h3⟩⟩
  have hdb : DB (applyTrims (mergeTexts frags)) := all_applyTrims (fun _ => rfl) (all_mergeTexts (fun _ => rfl) h2)
  exact render_flat h1 ((collect_static nodeFuel).2 doc h) (db_flat h2) (prints_db _ (fun _ => True) hdb) (fun _ _ _ => trivial)
    trivial hlen

open Pug.Props.C13S Pug.Props.C06S Pug.Driver in
/-- **C13 (debug mode changes white space only, whole documents).** For EVERY static document (text with any characters, doctype,
attribute-less tags, any nesting, block-level and inline in any mix) and any page data: the model of LoadTemplates + Render with
`Engine.Debug = true` - the transpiler's separators, text merging, the trim markers, the template parser, the executor - succeeds,
and what it prints equals the reference serialisation of the tree once all white space is removed from both. -/
theorem C13_static_debug_render (doc : List Node) (data : Lean.Json) (h : staticListF nodeFuel doc = true) :
    ∃ frags, compileNodes { funcs := engineFuncs ++ [], parserFuncs := engineFuncs ++ [] ++ builtinNames, debug := true } doc = .ok frags ∧
      (frags.length + 2 < 100000000 →
        ∃ w, renderModel doc data [] true = okOut w ∧ stripWs w = stripWs (serListF nodeFuel doc)) := by
  obtain ⟨frags, h1, h2⟩ := C13_static_debug_only_deletes doc data h
  exact ⟨frags, h1, fun hlen => let ⟨w, hw, hd⟩ := h2 hlen; ⟨w, hw, congrArg String.ofList (Pug.Props.C13D.wsdel_stripWs hd)⟩⟩

open Pug.Props.C13S Pug.Props.C06S Pug.Driver in
/-- **C13 (the two modes against each other).** Same documents: production mode and debug mode both render, and the two outputs
are identical once all white space is removed. -/
theorem C13_static_modes_agree (doc : List Node) (data : Lean.Json) (h : staticListF nodeFuel doc = true)
    (hsize : ∀ frags debug, compileNodes { funcs := engineFuncs ++ [], parserFuncs := engineFuncs ++ [] ++ builtinNames, debug := debug } doc = .ok frags →
      frags.length + 2 < 100000000) :
    ∃ p d, renderModel doc data [] false = okOut p ∧ renderModel doc data [] true = okOut d ∧ stripWs d = stripWs p := by
  obtain ⟨fp, hp1, hp2⟩ := Pug.Props.C06.C06_static_render doc data h
  obtain ⟨fd, hd1, hd2⟩ := C13_static_debug_render doc data h
  obtain ⟨w, hw1, hw2⟩ := hd2 (hsize fd true hd1)
  exact ⟨_, w, hp2 (hsize fp false hp1), hw1, hw2⟩

/-! non-vacuity: a document with block-level and inline tags, text ending in white space, a void element -/
open Pug.Props.C06S in
example : staticListF 7 [.tag "div" false [] [] [.tag "p" false [] [] [.text "intro "], .tag "br" false [] [] [], .text "Voilà \n"], .text " end "]
    = true := by decide
example : Pug.Props.C13S.stripWs "<div> <p>a b</p>\n</div>" = "<div><p>ab</p></div>" := by
  -- a literal is `String.ofList` of its characters: the filter runs on the character list, no text is decoded or compared as bytes
  rw [Pug.Props.C13S.stripWs, String.toList_ofList]
  exact congrArg String.ofList (by decide +kernel)

/-- **C13 (one compiler state per template file).** `C10_state_per_template` (mixin registry, block counter and raw-mode flag are created anew
for every template file): both modes compile a page from its own file alone. -/
theorem C13_compiler_state_per_template :
    (Gen.loadSkeleton.filter fun r => r.2 == "3 new renderState" || r.2 == "0 new renderState" || r.2 == "1 new renderState" ||
      r.2 == "2 new renderState" || r.2 == "4 new renderState") = [("compileDir", "3 new renderState")] :=
  Pug.Props.C10.C10_state_per_template

/-- deleting white space is what it says: a concrete instance -/
example : Pug.Props.C13D.WsDel "<p>ab</p>".toList "<p> a b</p>\n".toList := by
  have h : ("<p> a b</p>\n".toList.filter fun c => !isWs c) = "<p>ab</p>".toList := by
    rw [String.toList_ofList, String.toList_ofList]; decide +kernel
  rw [← h]; exact Pug.Props.C13D.wsdel_filter _

/-- **C13 (no state outlives a render or a compilation in package variables).** `C08_package_state_inventory`, restated so that THIS property's check
fails on it before any input is drawn. -/
theorem C13_package_state_inventory :
    Gen.pkgState_ok = true ∧ Gen.pkgState.all (fun v => Pug.Props.C08.knownPkgState.contains v) = true :=
  Pug.Props.C08.C08_package_state_inventory

end Pug.Props.C13
