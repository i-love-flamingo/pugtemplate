import PugModel.Data.JsonDecode
import PugProofs.C12.Str
import PugProofs.C12.Valid
/-!
# C12 — data handed to the browser as JSON is valid and equals the source data

String level (where the hazards are — quotes, backslashes, control characters, `< > &`, U+2028/9, non-ASCII):
for EVERY string, decoding (RFC 8259) the encoder's output gives back exactly that string (`C12_string_roundtrip`,
`C12_string_literal`). Value level: for EVERY heap value the encoder's text is derivable in the JSON grammar `IsJson` for the tree
the model reads from the heap (`C12_marshal_valid_json`); numbers are carried as the encoder's text, the grammar does not look
inside them.
-/
namespace Pug.Props.C12
open Pug Pug.Data

open Pug.Props.C12S

/-- **C12 (string round trip).** For every string, the RFC 8259 decoding of the encoded body is the string. -/
theorem C12_string_roundtrip (s : List Char) : decodeBody (s.flatMap jsonEscChar) = some s :=
  string_roundtrip s

/-- the whole literal: quote, body, quote -/
theorem C12_string_literal (s : List Char) :
    jsonStringChars s = ['"'] ++ s.flatMap jsonEscChar ++ ['"'] := rfl

/-! ## value level -/

open Pug.Props.C12V Pug.Tpl in
/-- **C12 (every value: valid JSON for the value the model reads).** For EVERY heap, value and traversal depth: if the model of
`json.Marshal` (what `JSON.stringify` and the `json` helper print) yields a text, that text is derivable in the JSON grammar of
RFC 8259 (`IsJson`: literals, numbers, strings, arrays `[e,…]`, objects `{"k":v,…}`, no stray character) FOR the tree `valOf` reads
from the same heap - arrays element by element, objects member by member in the encoder's key order - and every string in it,
values and keys alike, decodes (RFC 8259 string decoding, `decodeBody`) to exactly its characters. Induction over the depth; the
string case is `C12_string_roundtrip`. Numbers are carried as the encoder's text. -/
theorem C12_marshal_valid_json (fuel : Nat) (h : Heap) (v : Val) (s : String) (hm : marshal h fuel v = some s) :
    ∃ j, valOf h fuel v = some j ∧ IsJson s.toList j :=
  marshal_valid fuel h v s hm

/-- non-vacuity: the grammar relation on a concrete text -/
example : Pug.Props.C12V.IsJson "[true,\"x\"]".toList (.arr [.bool true, .str ['x']]) := by
  rw [show "[true,\"x\"]".toList = '[' :: ("true".toList ++ ',' :: ('"' :: ['x'] ++ ['"'])) ++ [']'] by decide +kernel]
  exact .arr (.cons .tt (.one (.str ['x'] ['x'] rfl)))

end Pug.Props.C12
