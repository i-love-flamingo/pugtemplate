import PugModel.Tpl.Compile
import PugModel.JS.Spec
import PugProofs.C01.EvalScalar
import PugProofs.C01.EndToEnd
import PugProofs.C01.SpecScalar
/-!
# C01 — embedded JavaScript expressions evaluate as JavaScript does (core subset)

What is proved here (for all operands, not for samples):
* the operator table `ops` and the helper maps (`funcmap`, `builtins`), *as generated from the Go source*, send every
  operator of the subset to the helper that implements it, and the four comparison closures of runtime.go denote
  `>`, `>=`, `<=`, `!=` (C01_ops_table, C01_closures);
* each helper computes the JavaScript result on the typed domain: arithmetic on numbers, string concatenation,
  same-type comparison and equality, truthiness, `!`, and `&&`/`||` returning the operand itself
  (C01_arith, C01_concat, C01_compare_numbers, C01_compare_strings, C01_truthiness, C01_logical_operands, C01_conditional).
  the kind matrices of the arithmetic and comparison helpers, read from runtime.go, have a case for every numeric pair
  (C01_arith_matrix, C01_cmp_matrix);
* whole expressions of the scalar fragment, any nesting: transpile, then execute = ECMAScript = the check's reference evaluator
  (C01_eval_scalar, C01_eval_scalar_entry, C01_print_scalar; helper modules `PugProofs/C01/*`), and end to end through
  `renderModel` for a boolean result (C01_render_bool_end_to_end).
Arrays, objects, member access and methods inside whole trees are exercised by the correspondence check only.
-/
namespace Pug.Props.C01
open Pug Pug.Tpl Pug.Gen

theorem C01_extract : ops_ok = true ∧ helperIdents_ok = true ∧ helperClosures_ok = true := by decide

/-- Go implementation behind the helper that `ops` assigns to a token -/
def implOf (tok : String) : Option String :=
  match ops.find? (·.1 == tok) with
  | some (_, h) => helperImpl h
  | none => none

def closureOf (tok : String) : Option BExpr :=
  match ops.find? (·.1 == tok) with
  | some (_, h) => helperClosure h
  | none => none

/-- **C01 (operator table).** Every operator of the subset reaches the runtime function that implements it. -/
theorem C01_ops_table :
    implOf "PLUS" = some "runtimeAdd" ∧ implOf "MINUS" = some "runtimeSub" ∧ implOf "MULTIPLY" = some "runtimeMul" ∧
    implOf "SLASH" = some "runtimeQuo" ∧ implOf "REMAINDER" = some "runtimeRem" ∧
    implOf "LESS" = some "runtimeLss" ∧ implOf "EQUAL" = some "runtimeEql" ∧ implOf "STRICT_EQUAL" = some "runtimeEql" ∧
    implOf "LOGICAL_AND" = some "and" ∧ implOf "LOGICAL_OR" = some "or" ∧ implOf "NOT" = some "not" := by
  -- the token's row of `ops`, then the helper's row of the function map
  have bin (op : JS.BinOp) : implOf (tokenName op) = C01S.implName op := by
    rw [implOf, C01S.ops_row]; exact (C01S.entry_bin op).2.1
  have not : implOf "NOT" = some "not" := by
    rw [implOf, C01S.ops_rows.1]; exact C01S.entry_not.2.1
  exact ⟨bin .add, bin .sub, bin .mul, bin .div, bin .mod, bin .lt, bin .eq, bin .seq, bin .land, bin .lor, not⟩

/-- **C01 (comparison closures).** The closures of runtime.go's funcmap, as translated from the source, are `>`, `>=`, `<=`
and `!=` expressed through the two primitive relations, for all 16 combinations of their truth values. -/
theorem C01_closures :
    ∀ l e ls es : Bool,
      (closureOf "GREATER").map (·.eval l e ls es) = some (!l && !e) ∧
      (closureOf "GREATER_OR_EQUAL").map (·.eval l e ls es) = some (!l) ∧
      (closureOf "LESS_OR_EQUAL").map (·.eval l e ls es) = some (l || e) ∧
      (closureOf "NOT_EQUAL").map (·.eval l e ls es) = some (!e) ∧
      (closureOf "STRICT_NOT_EQUAL").map (·.eval l e ls es) = some (!e) := by
  -- the closure the function map holds for the operator is `cmpExpr op`; evaluating that gives the right sides
  have bin (op : JS.BinOp) (h : C01S.implName op = none) : closureOf (tokenName op) = C01S.cmpExpr op := by
    rw [closureOf, C01S.ops_row]; exact (C01S.entry_bin op).2.2 h
  exact fun _ _ _ _ => ⟨congrArg _ (bin .gt rfl), congrArg _ (bin .ge rfl), congrArg _ (bin .le rfl),
    congrArg _ (bin .ne rfl), congrArg _ (bin .sne rfl)⟩

/-- **C01 (the kind matrix of the arithmetic helpers, read from runtime.go).** Every one of `runtimeSub`, `runtimeMul`,
`runtimeQuo`, `runtimeRem` has a case for each of the four pairs (int | float) x (int | float) - integer literals are `int`,
every number from the data is `float64` - and that case returns `X op Y` with the helper's own operator. A missing pair
(it would fall through to the string "<nil>") or a wrong operator fails this theorem on the next run. -/
theorem C01_arith_matrix :
    Gen.arithMatrix_ok = true ∧ Gen.arithKindsCoverLiteralAndData = true ∧
    ([("runtimeSub", "-"), ("runtimeMul", "*"), ("runtimeQuo", "/"), ("runtimeRem", "%")].all fun p =>
      ["int", "float"].all fun kx => ["int", "float"].all fun ky =>
        Gen.arithMatrix.contains (p.1, kx, ky, "X " ++ p.2 ++ " Y")) = true ∧
    -- and nothing else: no pair is handled twice or with a second expression
    Gen.arithMatrix.length = 16 := ⟨rfl, rfl, Pug.Props.C01S.arith_matrix, rfl⟩

/-- **C01 (the kind matrix of the comparison helpers, read from runtime.go).** `runtimeEql` and `runtimeLss` have a case for
every same-type pair the property speaks of - (int | float) x (int | float), string x string, and for equality bool x bool - and
that case compares the two values themselves (`X == Y` / `X < Y`, no formatting in between). The derived relations
`> >= <= !=` are the closures of `C01_closures` over these two. -/
theorem C01_cmp_matrix :
    Gen.cmpMatrix_ok = true ∧
    (["int", "float"].all fun kx => ["int", "float"].all fun ky =>
      Gen.cmpMatrix.contains ("runtimeEql", kx, ky, "X == Y") && Gen.cmpMatrix.contains ("runtimeLss", kx, ky, "X < Y")) = true ∧
    Gen.cmpMatrix.contains ("runtimeEql", "string", "string", "X == Y") = true ∧
    Gen.cmpMatrix.contains ("runtimeLss", "string", "string", "X < Y") = true ∧
    Gen.cmpMatrix.contains ("runtimeEql", "bool", "bool", "X == Y") = true ∧
    -- no pair of kinds has two cases
    ((Gen.cmpMatrix.map fun r => (r.1, r.2.1, r.2.2.1)).eraseDups.length = Gen.cmpMatrix.length) = true := by decide +kernel

open Pug.Props.C01S in
/-- **C01 (arithmetic on numbers)**: `+ - *` are exact, `/` divides (non-zero divisor), on `Number` operands. -/
theorem C01_arith (h : Heap) (a b : Rat) :
    runtimeAdd h (.N a) (.N b) = some (.N (a + b)) ∧
    runtimeSub (.N a) (.N b) = some (.N (a - b)) ∧
    runtimeMul (.N a) (.N b) = some (.N (a * b)) ∧
    (b ≠ 0 → runtimeQuo (.N a) (.N b) = some (.N (a / b))) :=
  ⟨add_num h (.N a) (.N b), sub_rep (.N a) (.N b), mul_rep (.N a) (.N b), quo_rep (.N a) (.N b)⟩

open Pug.Props.C01S in
/-- raw integer literals mix with numbers: `x + 1`, `2 * x` -/
theorem C01_arith_literal (h : Heap) (a : Rat) (n : Int) :
    runtimeAdd h (.N a) (.int n) = some (.N (a + n)) ∧ runtimeAdd h (.int n) (.N a) = some (.N (n + a)) ∧
    runtimeSub (.N a) (.int n) = some (.N (a - n)) ∧ runtimeMul (.int n) (.N a) = some (.N (n * a)) :=
  ⟨add_num h (.N a) (.int n), add_num h (.int n) (.N a), sub_rep (.N a) (.int n), mul_rep (.int n) (.N a)⟩

open Pug.Props.C01S in
/-- **C01 (remainder)** on integer-valued numbers has the sign of the dividend, as in JavaScript - also with an integer
literal on either side -/
theorem C01_rem (a b : Int) (hb : b ≠ 0) :
    runtimeRem (.N a) (.N b) = some (.N ((a.tmod b : Int) : Rat)) ∧
    runtimeRem (.int a) (.N b) = some (.N ((a.tmod b : Int) : Rat)) ∧
    JS.jsRem a b = some ((a.tmod b : Int) : Rat) := by
  have hj : JS.jsRem a b = some ((a.tmod b : Int) : Rat) := by simp [JS.jsRem, hb]
  exact ⟨rem_js (.N a) (.N b) hj, rem_js (.int a) (.N b) hj, hj⟩

/-- **C01 (string concatenation)**: `+` on two strings concatenates -/
theorem C01_concat (h : Heap) (a b : String) : runtimeAdd h (.S a) (.S b) = some (.S (a ++ b)) :=
  Pug.Props.C01S.add_str h (.S a) (.S b)

/-- **C01 (same-type comparison, numbers)**: `<` and `==` on numbers are the rational order and equality; with
`C01_closures` this gives `> >= <= != !==`. -/
theorem C01_compare_numbers (h : Heap) (a b : Rat) :
    runtimeLss (.N a) (.N b) = some (decide (a < b)) ∧ runtimeEql h (.N a) (.N b) = some (a == b) :=
  Pug.Props.C01S.cmp_num h (.N a) (.N b)

theorem C01_compare_strings (h : Heap) (a b : String) :
    runtimeLss (.S a) (.S b) = some (decide (a < b)) ∧ runtimeEql h (.S a) (.S b) = some (a == b) :=
  Pug.Props.C01S.cmp_str h (.S a) (.S b)

theorem C01_compare_bools (h : Heap) (a b : Bool) : runtimeEql h (.B a) (.B b) = some (a == b) :=
  (Pug.Props.C01S.cmp_bool h (.B a) (.B b)).2

/-- the derived relations on numbers are the JavaScript ones -/
theorem C01_derived_relations (a b : Rat) :
    (!(decide (a < b)) && !(a == b)) = decide (a > b) ∧ (!(decide (a < b))) = decide (a ≥ b) ∧
    (decide (a < b) || (a == b)) = decide (a ≤ b) :=
  Pug.Props.C01S.rat_rel a b

/-- primitive JavaScript values as the engine represents them -/
def repr : JS.JSVal → Option Val
  | .num q => some (.N q)
  | .str s => some (.S s)
  | .bool b => some (.B b)
  | .null => some .nil
  | .undefined => some .invalid
  | _ => none

/-- **C01 (truthiness)**: the engine's `truth` is ToBoolean on every primitive value -/
theorem C01_truthiness (h : Heap) (v : JS.JSVal) (r : Val) (hr : repr v = some r) : truth h r = JS.toBool v := by
  cases v <;> simp [repr] at hr <;> subst hr <;> simp [truth, JS.toBool]

/-- **C01 (`!`)** -/
theorem C01_not (h : Heap) (v : JS.JSVal) (r : Val) (hr : repr v = some r) : (!truth h r) = !JS.toBool v := by
  rw [C01_truthiness h v r hr]

/-- **C01 (`||` and `&&` return the operand itself, not a boolean)** for object operands -/
theorem C01_logical_operands (x y : Val) (hx : x.isObject = true) (hy : y.isObject = true) (st : St) :
    callBuiltin "__op__or" [x, y] st = .ok ((if truth st.heap x then x else y), st) ∧
    callBuiltin "__op__and" [x, y] st = .ok ((if truth st.heap x then y else x), st) := by
  rw [callBuiltin_or (name := "__op__or") (Pug.Props.C01S.entry_bin .lor).2.1,
    callBuiltin_and (name := "__op__and") (Pug.Props.C01S.entry_bin .land).2.1]
  constructor <;> split <;> simp [convert_object hx, convert_object hy]

/-- **C01 (conditional operator)** picks by truthiness -/
theorem C01_conditional (t a b : Val) (ha : a.isObject = true) (hb : b.isObject = true) (st : St) :
    callBuiltin "__if" [t, a, b] st = .ok ((if truth st.heap t then a else b), st) := by
  rw [callBuiltin_if]
  split <;> simp [convert_object ha, convert_object hb]

/-! ## whole expressions (scalar fragment): transpile, then execute = JavaScript

`JS.SExpr` is the fragment of number / string / boolean literals, variables, `+ - * / %`, the six comparisons, the four
equalities, `&& || !`, unary minus and `?:`, nested to ANY depth. `JS.sEval` is ECMAScript on it. The helper lemmas are in
`PugProofs/C01/*.lean`; the three statements below are the property. -/

open Pug.JS Pug.Props.C01S in
/-- **C01 (whole expressions).** For EVERY expression of the scalar fragment (any nesting), EVERY environment and EVERY
execution state whose variables hold the environment's values: if JavaScript gives the expression a value `r`, then
(1) the transpiler emits the term `tr e` for it, (2) the executor evaluates that term to (a representation of) `r` and
leaves the state unchanged, and (3) the reference evaluator the check uses as its oracle says `r` too. -/
theorem C01_eval_scalar (env : CEnv) (ρ : SEnv) (e : SExpr) (r : SVal) (hw : WF env e) (h : sEval ρ e = some r)
    (st : St) (hag : Agree st ρ) :
    (∀ fuel, e.depth < fuel → compileExprF fuel env e.toExpr = .ok (some (tr e))) ∧
    (∀ fuel, 2 * e.depth < fuel → ∃ v, evalExpr fuel (tr e) st = .ok (v, st) ∧ Rep v r) ∧
    (∀ fuel, e.depth < fuel → JS.evalF fuel ρ.toJS e.toExpr = some r.toJS) :=
  ⟨compile_scalar env e hw, eval_scalar ρ e r h st hag, evalF_scalar ρ e r h⟩

open Pug.JS Pug.Props.C01S in
/-- the same, for the entry points the driver and the checks call (their fuel is far above any nesting in use) -/
theorem C01_eval_scalar_entry (env : CEnv) (ρ : SEnv) (e : SExpr) (r : SVal) (hw : WF env e) (h : sEval ρ e = some r)
    (hd : e.depth < 50000) :
    compileExpr env e.toExpr = .ok (some (tr e)) ∧ JS.eval ρ.toJS e.toExpr = some r.toJS :=
  ⟨compileExpr_scalar env e hw hd, evalF_scalar ρ e r h evalFuel (Nat.lt_trans hd (by decide))⟩

open Pug.JS Pug.Props.C01S in
/-- **C01 (buffered code prints the JavaScript value).** The template node `{{ tr e | __pug__html }}` runs `printVal` on a
representation of the JavaScript value: what is printed is determined by JavaScript's result alone. -/
theorem C01_print_scalar (ρ : SEnv) (e : SExpr) (r : SVal) (h : sEval ρ e = some r) (st : St) (hag : Agree st ρ)
    (env : Tpl.Env) (esc : Bool) (fuel : Nat) (hf : 2 * e.depth + 1 < fuel) :
    ∃ v, Rep v r ∧ walk fuel env (.print (tr e) esc) st = printVal v esc st :=
  walk_print_scalar h hag env esc hf

open Pug.JS Pug.Props.C01S in
/-- non-vacuity: `(n + 2) * 3 < 10 ? s + s : !b` over n = 1, s = "x", b = false has the JavaScript value "xx" and is
well-formed -/
example :
    let e : SExpr := .cond (.bin .lt (.bin .mul (.bin .add (.var "n") (.num 2 true)) (.num 3 true)) (.num 10 true))
      (.bin .add (.var "s") (.var "s")) (.not (.var "b"))
    let ρ : SEnv := [("n", .num 1), ("s", .str "x"), ("b", .bool false)]
    sEval ρ e = some (.str "xx") ∧ WF { funcs := ["Math"], parserFuncs := [] } e := by
  exact ⟨by decide +kernel, by simp [WF]⟩

open Pug.JS Pug.Props.C01S Pug.Driver in
/-- **C01 (end to end, through the whole model of LoadTemplates + Render)** for a boolean result (`= a < b`, `= c ? p == q : r`; not the bare `= !x`, which `TopEsc` excludes): the page shows `true` / `false`
exactly as JavaScript's result says -/
theorem C01_render_bool_end_to_end (o : Std.TreeMap.Raw String Lean.Json) (svs : SEnv) (hd : ScalarData o svs)
    (hg : ∀ kv ∈ svs, kv.1 ≠ "global") (e : SExpr) (b : Bool) (inl : Bool)
    (hw : WF { funcs := engineFuncs ++ [], parserFuncs := engineFuncs ++ [] ++ builtinNames } e) (ht : TopEsc e)
    (hdepth : e.depth < 50000) (h : sEval svs e = some (.bool b)) :
    renderModel [.codeBuf e.toExpr true inl] (.obj o) [] false = okOut (if b then "true" else "false") := by
  refine render_code hd hg inl hw ht hdepth true h fun v rv st => ?_
  rw [printVal_of_sprint st (by cases rv <;> simp) (s := if b then "true" else "false") (by cases rv <;> rfl)]
  cases b <;> exact congrArg (fun t => Except.ok ((), st.put t)) (by decide +kernel)

end Pug.Props.C01
