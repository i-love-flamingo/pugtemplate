import PugModel.Tpl.Compile
import PugModel.Gen.Tables
import PugProofs.C01.EvalScalar
import PugProofs.C01.EndToEnd
import PugProofs.C06.Mixed
import PugProofs.Escape
import PugModel.Pug.Spec
/-!
# C04 — escaped output never lets data-supplied markup through

The escape matrix read from `renderExpression` on this run sends every string-carrying kind to the escaper (one unescaped branch
fails the build); the escaper's table is the specification's, its output holds none of < > " ' for EVERY string, and it commutes with
concatenation (marker substitution); the executor's escaped print appends exactly the escaped text - for a string value, for every
scalar expression with a string value, and through the whole model of LoadTemplates + Render for one code node and for code nodes
anywhere in a static tree.
-/
namespace Pug.Props.C04
open Pug Pug.Tpl Pug.Gen

theorem C04_extract : escapeMatrix_ok = true ∧ htmlEscape_ok = true := by decide

/-- the kinds through which a data string can reach the output of `= e` / `#{e}` -/
def stringCarryingKinds : List String :=
  ["Identifier", "DotExpression", "BracketExpression", "BinaryExpression", "ConditionalExpression", "CallExpression",
   "TemplateLiteral", "ArrayLiteral"]

/-- **C04 (escape matrix).** (emits an action, that action ends in `| __pug__html`) for every string-carrying kind. -/
theorem C04_matrix : ∀ k ∈ stringCarryingKinds, matrixRow k = (true, true) := by decide +kernel

/-- a wrapped expression of a string-carrying kind is compiled to an *escaped* print action -/
theorem C04_wrapKind (e : JS.Expr) (h : exprKind e ∈ stringCarryingKinds) : wrapKind e = .action true := by
  -- literals, `null` and unary expressions are of no string-carrying kind; every other kind is wrapped as its row of the matrix says
  cases e with
  | num | str | bool | null | un => simp [exprKind, stringCarryingKinds] at h
  | _ => exact congrArg (fun row => WrapKind.action row.2) (C04_matrix _ h)

/-- **C04 (escape table).** -/
theorem C04_escape_table :
    escChar htmlEscape '&' = "&amp;".toList ∧ escChar htmlEscape '<' = "&lt;".toList ∧ escChar htmlEscape '>' = "&gt;".toList ∧
    escChar htmlEscape '"' = "&#34;".toList ∧ escChar htmlEscape '\'' = "&#39;".toList ∧
    (htmlEscape.map (·.1)).all (fun c => ['&', '<', '>', '"', '\''].contains c) = true := by decide +kernel

def significant (c : Char) : Bool := c == '<' || c == '>' || c == '"' || c == '\''

/-- **C04 (escaped text is inert).** For every string, no `<`, `>`, `"` or `'` survives escaping. -/
theorem C04_escape_safe (s : List Char) : ∀ d ∈ escapeWith htmlEscape s, significant d = false :=
  escapeWith_safe (by decide +kernel) (markup_isKey (by decide +kernel)) s

/-- **C04 (escaping is a homomorphism).** -/
theorem C04_escape_hom (a b : List Char) : escapeWith htmlEscape (a ++ b) = escapeWith htmlEscape a ++ escapeWith htmlEscape b := by
  simp [escapeWith, List.flatMap_append]

/-- **C04 (substitution).** Text around a value is escaped independently of the value: rendering `pre ++ h ++ post` equals
rendering with a marker `m` in place of `h` and substituting `escape h` for `escape m`. -/
theorem C04_substitution (pre h post : List Char) :
    escapeWith htmlEscape (pre ++ h ++ post) = escapeWith htmlEscape pre ++ escapeWith htmlEscape h ++ escapeWith htmlEscape post := by
  simp [C04_escape_hom]

/-- the engine's escaper and the specification's agree on every string -/
theorem C04_escape_eq_spec (s : List Char) : escapeWith htmlEscape s = escapeWith Spec.htmlEscapeTable s :=
  escapeWith_congr (by decide +kernel) s

/-- **C04 (escaped print action).** Printing a string value through the escaper appends exactly its escaped text. -/
theorem C04_print_escaped (s : String) (st : St) :
    printVal (.S s) true st = .ok ((), { st with out := st.out ++ pugHtmlEscape s }) :=
  printVal_string (.inr rfl) true st

/-! ## escaped code nodes over whole expressions (scalar fragment) -/

open Pug.JS Pug.Props.C01S in
/-- **C04 (every escaped code node whose expression yields a string).** For EVERY expression of the scalar fragment (any
nesting: variables, concatenations, conditionals, `||` defaults, ...) whose JavaScript value is a string `s` - wherever the
string comes from, data included - the escaped buffered-code node appends exactly `escape s` to the output, and nothing else
of the state changes. With `C04_escape_safe` (no `<`, `>`, `"`, `'` survives) the value cannot contribute markup. -/
theorem C04_code_escaped_scalar (ρ : SEnv) (e : SExpr) (s : String) (h : sEval ρ e = some (.str s)) (st : St)
    (hag : Agree st ρ) (env : Tpl.Env) (fuel : Nat) (hf : 2 * e.depth + 1 < fuel) :
    walk fuel env (.print (tr e) true) st = .ok ((), { st with out := st.out ++ pugHtmlEscape s }) :=
  walk_code h hag env true hf

open Pug.JS Pug.Props.C01S Pug.Driver in
/-- **C04 (end to end, through the whole model of LoadTemplates + Render).** Page data: ANY JSON object whose values are strings,
numbers or booleans (lower-initial keys, none called `global`). Template: the escaped buffered code `= e` for ANY expression of
the scalar fragment built from those values by concatenation, conditionals, `||` / `&&` defaults, comparisons - any nesting -
whose JavaScript value is a string `s`. Then conversion of the data, the transpiler, text merging, trim markers, the template
parser and the executor together print exactly `escape s` - and by `C04_escape_safe` that text contains no `<`, `>`, `"`, `'`. -/
theorem C04_render_escaped_end_to_end (o : Std.TreeMap.Raw String Lean.Json) (svs : SEnv) (hd : ScalarData o svs)
    (hg : ∀ kv ∈ svs, kv.1 ≠ "global") (e : SExpr) (s : String) (inl : Bool)
    (hw : WF { funcs := engineFuncs ++ [], parserFuncs := engineFuncs ++ [] ++ builtinNames } e) (ht : TopEsc e)
    (hdepth : e.depth < 50000) (h : sEval svs e = some (.str s)) :
    renderModel [.codeBuf e.toExpr true inl] (.obj o) [] false = okOut (pugHtmlEscape s) :=
  render_code hd hg inl hw ht hdepth true h fun _ rv => printVal_string (by cases rv <;> simp) true

open Pug.JS Pug.Props.C01S Pug.Props.MixedS Pug.Driver in
/-- **C04 + C06 (escaped code in EVERY position of a static tree, end to end).** Page data: any JSON object with string / number /
boolean values. Document: any tree of text (braces included), doctype and attribute-less tags, nested to any depth `d`, with
escaped buffered code `= e` - `e` any well-formed scalar expression with a string value - at ANY place in it. `MSerL` relates such
a document to its reference serialisation `out`: tags and text as written, `escape (value of e)` at each code node. Then the
whole model of LoadTemplates + Render - data conversion, transpiler, text merging, trim markers, template parser, executor -
prints exactly `out`: no position in the tree lets a value through unescaped, and the structure around it is untouched. -/
theorem C04_escaped_in_every_position (o : Std.TreeMap.Raw String Lean.Json) (svs : SEnv) (hd : ScalarData o svs)
    (hg : ∀ kv ∈ svs, kv.1 ≠ "global") (d : Nat) (hdep : 2 * d < nodeFuel) (doc : List Node) (out : String)
    (h : MSerL svs { funcs := engineFuncs ++ [], parserFuncs := engineFuncs ++ [] ++ builtinNames } d doc out) :
    ∃ frags, compileNodes { funcs := engineFuncs ++ [], parserFuncs := engineFuncs ++ [] ++ builtinNames } doc = .ok frags ∧
      (frags.length + 100003 < 100000000 → renderModel doc (.obj o) [] false = okOut out) := by
  obtain ⟨frags, h1, h2⟩ := compileNodes_mixed { defs := [] } (renderEnv false) rfl d hdep doc out h
  obtain ⟨outs, hr, _⟩ := h
  exact ⟨frags, h1, render_flat_noTrim h1 (NoMixins.rel2 (collect_mixed d) doc outs hr) h2.1 h2.2 (fun _ _ h => h)
    (agree_initState o svs hd hg)⟩

open Pug.JS Pug.Props.C01S Pug.Driver in
/-- **C04 (raw only where the template asks for it).** The unescaped form `!= e` of the same documents prints the string value
itself - the ONLY difference between the two forms is the escaper, and it is there unless the template author wrote `!=`. -/
theorem C04_render_raw_end_to_end (o : Std.TreeMap.Raw String Lean.Json) (svs : SEnv) (hd : ScalarData o svs)
    (hg : ∀ kv ∈ svs, kv.1 ≠ "global") (e : SExpr) (s : String) (inl : Bool)
    (hw : WF { funcs := engineFuncs ++ [], parserFuncs := engineFuncs ++ [] ++ builtinNames } e) (ht : TopEsc e)
    (hdepth : e.depth < 50000) (h : sEval svs e = some (.str s)) :
    renderModel [.codeBuf e.toExpr false inl] (.obj o) [] false = okOut s :=
  render_code hd hg inl hw ht hdepth false h fun _ rv => printVal_string (by cases rv <;> simp) false

/-! non-vacuity -/
example : escapeWith htmlEscape "<b a=\"1\">&'".toList = "&lt;b a=&#34;1&#34;&gt;&amp;&#39;".toList := by
  -- a literal is `String.ofList` of its characters: both texts become character lists without running the decoder
  rw [String.toList_ofList, String.toList_ofList]
  decide +kernel

section EndToEndNonVacuity
open Pug.JS Pug.Props.C01S Pug.Driver Lean
private def o1 : Std.TreeMap.Raw String Json := ((∅ : Std.TreeMap.Raw String Json).insert "a" (.str "<b>")).insert "b" (.bool true)
private def svs1 : SEnv := [("a", .str "<b>"), ("b", .bool true)]
private def e1 : SExpr := .bin .add (.var "a") (.cond (.var "b") (.var "a") (.var "b"))
example : ScalarData o1 svs1 := ⟨by decide +kernel, by decide +kernel⟩
example : ∀ kv ∈ svs1, kv.1 ≠ "global" := by decide +kernel
private theorem e1_wf : WF { funcs := engineFuncs ++ [], parserFuncs := engineFuncs ++ [] ++ builtinNames } e1 := by
  simp only [WF, e1]; decide +kernel
private theorem e1_val : sEval svs1 e1 = some (.str "<b><b>") := by decide +kernel
example : WF { funcs := engineFuncs ++ [], parserFuncs := engineFuncs ++ [] ++ builtinNames } e1 := e1_wf
example : TopEsc e1 := trivial
example : sEval svs1 e1 = some (.str "<b><b>") := e1_val
open Pug.Props.MixedS in
/-- non-vacuity of `C04_escaped_in_every_position`: `p` containing the text `a{b` and the code `= a + (b ? a : b)` over
{a: "<b>", b: true} -/
example : MSerL svs1 { funcs := engineFuncs ++ [], parserFuncs := engineFuncs ++ [] ++ builtinNames } 2
    [.tag "p" false [] [] [.text "a{b", .codeBuf e1.toExpr true true]]
    (cat ["<" ++ "p" ++ ">" ++ cat ["a{b", pugHtmlEscape "<b><b>"] ++ "</" ++ "p" ++ ">"]) := by
  refine ⟨[_], ⟨?_, trivial⟩, rfl⟩
  simp only [MSer]
  exact ⟨trivial, trivial, by decide, ["a{b", pugHtmlEscape "<b><b>"],
    ⟨rfl, ⟨e1, "<b><b>", rfl, rfl, e1_wf, trivial, by decide, e1_val, rfl⟩, trivial⟩, (if_neg (by decide)).symm⟩
end EndToEndNonVacuity

/-! ## the code the model mirrors, by its control skeleton

`Gen.escapeSkeleton`: `HTMLEscape` (pugjs/tpl_funcs.go): one loop over the bytes, one switch with five cases, nothing that skips a byte; the control skeleton (conditions, loop headers, returns, in source order with nesting depth; regenerated on every run)
the escaper model generated from the same switch (`Gen.htmlEscape`) was written against. -/

def expected_escapeSkeleton : List (String × String) :=
  [("HTMLEscape", "0 range b"),
   ("HTMLEscape", "1 switch c"),
   ("HTMLEscape", "2 case '\"'"),
   ("HTMLEscape", "2 case '\\''"),
   ("HTMLEscape", "2 case '&'"),
   ("HTMLEscape", "2 case '<'"),
   ("HTMLEscape", "2 case '>'"),
   ("HTMLEscape", "2 case "),
   ("HTMLEscape", "3 continue ")]

/-- **C04 (the model's tie to the code, by shape).** -/
theorem C04_escape_skeleton : Gen.escapeSkeleton_ok = true ∧ Gen.escapeSkeleton = expected_escapeSkeleton :=
  ⟨rfl, rfl⟩

end Pug.Props.C04
