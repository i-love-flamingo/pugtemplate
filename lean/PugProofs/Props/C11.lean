import PugModel.Tpl.Exec
import PugModel.Gen.Tables
import PugModel.Data.GoVal
import PugProofs.C11.Path
/-!
# C11 — Go data is reachable from templates by lower-camel paths; absent data is empty

Theorems over the member/index/print model (tied to types.go / tpl_funcs.go / tpl_exec.go by the correspondence on dynamically
shaped Go values, with an independent reflection walk as oracle):
* a key that is present is what `Member` returns, whatever else the map holds (C11_member_present);
* absence propagates silently: a member of Nil is Nil, a member of an undefined value is undefined, an out-of-range index
  and a missing key are Nil — for every name, index, key and heap (C11_member_of_nil, C11_member_of_undefined,
  C11_index_out_of_range, C11_missing_key);
* Nil and the undefined value print nothing through the escaper and raise no error (C11_absent_prints_nothing).
-/
namespace Pug.Props.C11
open Pug Pug.Tpl

/-- **C11 (present member).** -/
theorem C11_member_present (items : List (String × Val)) (order : List String) (k : String) (v : Val)
    (h : assocGet items k = some v) : mapMember { items := items, order := order } k = v := by
  simp [mapMember, h]

/-- **C11 (member of Nil is Nil)** — the step after a nil pointer / missing key -/
theorem C11_member_of_nil (fuel : Nat) (recv : TExpr) (name : String) (st st' : St)
    (h : evalExpr (fuel + 1) recv st = .ok (.nil, st')) :
    evalExpr (fuel + 2) (.field recv name []) st = .ok (.nil, st') :=
  evalExpr_field_nil name h

/-- **C11 (member of an undefined value is undefined)** — no error -/
theorem C11_member_of_undefined (fuel : Nat) (recv : TExpr) (name : String) (args : List TExpr) (st st' : St)
    (h : evalExpr (fuel + 1) recv st = .ok (.invalid, st')) :
    evalExpr (fuel + 2) (.field recv name args) st = .ok (.invalid, st') :=
  evalExpr_field_invalid name args h

/-- **C11 (out-of-range index is Nil)** -/
theorem C11_index_out_of_range (a : Nat) (i : Int) (st : St)
    (h : i < 0 ∨ i ≥ ((st.heap.getArr a).length : Int)) :
    indexFn (.arr a) [.int i] st = .ok (.nil, st) := by
  rw [indexFn, bind_run, getHeap_run]
  rcases h with h | h <;> simp [h]

/-- **C11 (missing key is Nil)** -/
theorem C11_missing_key (a : Nat) (k : String) (st : St) (hk : k ≠ "")
    (h : assocGet (st.heap.getMap a).items k = none) :
    indexFn (.map a) [.S k] st = .ok (.nil, st) := by
  rw [indexFn, bind_run, getHeap_run]
  simp [h, hk]

/-- **C11 (absent prints nothing, raises nothing).** -/
theorem C11_absent_prints_nothing (st : St) :
    printVal .nil true st = .ok ((), st) ∧ printVal .invalid true st = .ok ((), st) :=
  ⟨printVal_nil st, printVal_invalid st⟩

/-! ## whole paths: once data is absent, every further step is absent, and nothing is printed -/

/-! a path of member accesses `recv.n1.n2. ... .nk` is `Pug.Props.C11P.pathOf recv [n1, ..., nk]` -/
open Pug.Props.C11P (pathOf eval_follow)

/-- **C11 (absence propagates along any path).** If some prefix of a path evaluates to Nil (a nil pointer, a missing key, an
out-of-range index), then for EVERY continuation of the path the whole path evaluates to Nil: no error, whatever the names. -/
theorem C11_absent_propagates (names : List String) : ∀ (fuel : Nat) (recv : TExpr) (st st' : St),
    evalExpr (fuel + 1) recv st = .ok (.nil, st') →
    evalExpr (fuel + 1 + names.length) (pathOf recv names) st = .ok (.nil, st') :=
  fun fuel recv st st' h => eval_follow names fuel recv st st' _ _ h (C11P.follow_nil _ _)

/-- the same for an undefined start (a variable that is not in the data at all) -/
theorem C11_undefined_propagates (names : List String) : ∀ (fuel : Nat) (recv : TExpr) (st st' : St),
    evalExpr (fuel + 1) recv st = .ok (.invalid, st') →
    evalExpr (fuel + 1 + names.length) (pathOf recv names) st = .ok (.invalid, st') :=
  fun fuel recv st st' h => eval_follow names fuel recv st st' _ _ h (C11P.follow_invalid _ _)

/-- the print node over a path whose value is known -/
theorem print_path {names : List String} {fuel : Nat} {recv : TExpr} {st st' : St} {v : Val} (env : Env)
    (h : evalExpr (fuel + 1 + names.length) (pathOf recv names) st = .ok (v, st')) :
    walk (fuel + 2 + names.length) env (.print (pathOf recv names) true) st = printVal v true st' := by
  rw [show fuel + 2 + names.length = fuel + 1 + names.length + 1 from Nat.add_right_comm (fuel + 1) 1 names.length, walk_print env true h]

/-- **C11 (an absent path prints nothing and raises nothing).** The escaped buffered-code node over ANY continuation of a path
whose prefix is absent leaves the output as it was. -/
theorem C11_absent_path_prints_nothing (names : List String) (fuel : Nat) (recv : TExpr) (env : Env) (st : St)
    (h : evalExpr (fuel + 1) recv st = .ok (.nil, st) ∨ evalExpr (fuel + 1) recv st = .ok (.invalid, st)) :
    walk (fuel + 2 + names.length) env (.print (pathOf recv names) true) st = .ok ((), st) := by
  rcases h with h | h
  · rw [print_path env (C11_absent_propagates names fuel recv st st h), printVal_nil]
  · rw [print_path env (C11_undefined_propagates names fuel recv st st h), printVal_invalid]

/-! ## present paths: what Go reaches is what the template reads

`Reach n g p r` (PugProofs/C11/Path.lean) is the specification: following the member names `p` from the Go value `g` - map
keys, exported struct fields and niladic methods under their lower-camel names, transparently through pointers and interfaces -
arrives at `r`. `convertGo` is the model of `pugjs.Convert` the driver uses. -/

open Pug.Data Pug.Props.C11P in
/-- **C11 (a present path reads the leaf Go reaches).** For EVERY Go data tree `g` (maps, structs with fields and methods,
pointers, interfaces, slices, scalars - any shape, any size, whatever else it holds), EVERY path `p` that Go can follow to a scalar
leaf `r`, and every execution state whose heap extends the converted data: the member chain `recv.p1.p2. ... .pk` over the
converted value evaluates to the converted leaf, with no error and no change of state. -/
theorem C11_present_path {n : Nat} {g : GoVal} {p : List String} {r : GoVal} (hr : Reach n g p r) (lv : Val)
    (hl : leafVal r = some lv) (hn : n < goFuel) (h0 : Heap) (st : St) (recv : TExpr) (fuel : Nat)
    (hrecv : evalExpr (fuel + 1) recv st = .ok ((convertGo g h0).2, st)) (hext : Ext (convertGo g h0).1 st.heap) :
    evalExpr (fuel + 1 + p.length) (pathOf recv p) st = .ok (lv, st) :=
  eval_follow p fuel recv st st _ lv hrecv (reach_convert hr lv hl goFuel h0 st.heap hn hext)

open Pug.Data Pug.Props.C11P in
/-- **C11 (… and the escaped code node prints it).** For a string leaf `s` the node `= recv.p1. ... .pk` appends exactly the
escaped leaf text and changes nothing else. -/
theorem C11_present_path_prints_leaf {n : Nat} {g : GoVal} {p : List String} {s : String} (hr : Reach n g p (.str s))
    (hn : n < goFuel) (h0 : Heap) (st : St) (recv : TExpr) (fuel : Nat) (env : Env)
    (hrecv : evalExpr (fuel + 1) recv st = .ok ((convertGo g h0).2, st)) (hext : Ext (convertGo g h0).1 st.heap) :
    walk (fuel + 2 + p.length) env (.print (pathOf recv p) true) st = .ok ((), { st with out := st.out ++ pugHtmlEscape s }) := by
  rw [print_path env (C11_present_path hr (.S s) rfl hn h0 st recv fuel hrecv hext),
    printVal_string (.inr rfl) true st]
  rfl

open Pug.Data Pug.Props.C11P in
/-- **C11 (a path that ends where the data stops prints nothing).** For EVERY Go data tree and EVERY path Go can follow to a nil
pointer, a nil interface value or Go's nil (relation `Reach`, any depth, through maps, structs, methods, pointers, interfaces):
the escaped code node over that path appends nothing to the output, raises nothing and leaves the state as it is. (The model
converts `.iface none` to Nil for every interface type; that this is what `convert()` does is the regenerated skeleton
`C11_convert_skeleton` - the two lines `if val.IsNil()` / `return Nil{}` at the head of the `reflect.Interface` case - and the
behind-interface bucket of the correspondence.) -/
theorem C11_path_to_nil_prints_nothing {n : Nat} {g : GoVal} {p : List String} {r : GoVal} (hr : Reach n g p r)
    (hnil : r = .nil ∨ r = .ptr none ∨ r = .iface none)
    (hn : n < goFuel) (h0 : Heap) (st : St) (recv : TExpr) (fuel : Nat) (env : Env)
    (hrecv : evalExpr (fuel + 1) recv st = .ok ((convertGo g h0).2, st)) (hext : Ext (convertGo g h0).1 st.heap) :
    walk (fuel + 2 + p.length) env (.print (pathOf recv p) true) st = .ok ((), st) := by
  have hl : leafVal r = some .nil := by rcases hnil with rfl | rfl | rfl <;> rfl
  rw [print_path env (C11_present_path hr .nil hl hn h0 st recv fuel hrecv hext), printVal_nil]

/-! non-vacuity: a struct whose field `None` (declared with a non-empty interface type) holds nil, behind a pointer in a map:
`x.scene.none` reaches the nil interface value -/
open Pug.Data Pug.Props.C11P in
example : Reach 3 (.map [("scene", .ptr (some (.struct [("Main", true, .iface (some (.str "m"))), ("None", true, .iface none)] [])))])
    ["scene", "none"] (.iface none) := by
  refine @Reach.key 2 [] [] "scene" _ ["none"] _ (by decide +kernel) (by decide +kernel) (Reach.ptr ?_)
  have h1 : lowerFirst "Main" = "main" := by decide +kernel
  have h2 : lowerFirst "None" = "none" := by decide +kernel
  exact @Reach.field 0 _ _ [("main", .iface (some (.str "m")))] [] "none" (.iface none) [] _ (by simp [structEntries, h1, h2]) (by decide +kernel) (by decide +kernel)
    (by decide +kernel) (Reach.here _)

/-! non-vacuity: a map holding a pointer to a struct whose field `Name` and method `Title` are reached by `x.item.name` /
`x.item.title`, next to other entries -/
open Pug.Data Pug.Props.C11P in
example : Reach 3 (.map [("n", .num 1), ("item", .ptr (some (.struct [("Name", true, .str "<b>"), ("hidden", false, .str "s")] [("Title", .str "T")])))])
    ["item", "name"] (.str "<b>") := by
  refine @Reach.key 2 [("n", .num 1)] [] "item" _ ["name"] _ (by decide +kernel) (by decide +kernel) (Reach.ptr ?_)
  have h1 : lowerFirst "Name" = "name" := by decide +kernel
  have h2 : lowerFirst "Title" = "title" := by decide +kernel
  exact @Reach.field 0 _ _ [] [("title", .str "T")] "name" (.str "<b>") [] _ (by simp [structEntries, h1, h2]) (by decide +kernel) (by decide +kernel)
    (by decide +kernel) (Reach.here _)

/-! ## the code the model mirrors, by its control skeleton

`Gen.convertSkeleton`: `convert`, `Map.convert`, `Map.Member` (pugjs/types.go) and `index` (pugjs/tpl_funcs.go): the kind switch of the conversion, the lazy member table, the member lookup with its fall-back spellings, the index tolerance; the control skeleton (conditions, loop headers, returns, in source order with nesting depth; regenerated on every run)
the conversion and lookup model (`Data/GoVal.lean`, `mapMember`, `indexFn`) was written against. -/

def expected_convertSkeleton : List (String × String) :=
  [("convert", "0 if in == nil"),
   ("convert", "1 return Nil{}"),
   ("convert", "0 if ok"),
   ("convert", "1 return in"),
   ("convert", "0 if !ok"),
   ("convert", "0 if !val.IsValid()"),
   ("convert", "1 return Nil{}"),
   ("convert", "0 if !val.CanInterface()"),
   ("convert", "1 return Nil{}"),
   ("convert", "0 if ok"),
   ("convert", "1 return in"),
   ("convert", "0 if ok && err != nil"),
   ("convert", "1 if rv.Kind() != reflect.Ptr || !rv.IsNil()"),
   ("convert", "2 return String(fmt.Sprintf(\"Error: %+v\", err))"),
   ("convert", "0 switch val.Kind()"),
   ("convert", "1 case reflect.Slice"),
   ("convert", "2 for i < val.Len()"),
   ("convert", "2 return array"),
   ("convert", "1 case reflect.Map"),
   ("convert", "2 range val.MapKeys()"),
   ("convert", "3 if k.Kind() == reflect.Interface"),
   ("convert", "2 if ok"),
   ("convert", "3 range order"),
   ("convert", "2 return newMap"),
   ("convert", "1 case reflect.Struct"),
   ("convert", "2 return newMap"),
   ("convert", "1 case reflect.String"),
   ("convert", "2 return String(val.String())"),
   ("convert", "1 case reflect.Interface"),
   ("convert", "2 if val.IsNil()"),          -- fix 318a99d: a nil non-empty interface is Nil
   ("convert", "3 return Nil{}"),
   ("convert", "2 if val.Type().NumMethod() == 0"),
   ("convert", "3 return convert(val.Interface())"),
   ("convert", "2 if !val.IsNil()"),
   ("convert", "3 for i < val.NumMethod()"),
   ("convert", "3 if ok"),
   ("convert", "4 range m.items"),
   ("convert", "2 if ok"),
   ("convert", "2 return newMap"),
   ("convert", "1 case reflect.Float32, reflect.Float64"),
   ("convert", "2 return Number(val.Float())"),
   ("convert", "1 case reflect.Int8, reflect.Int16, reflect.Int32, reflect.Int64, reflect.Int"),
   ("convert", "2 return Number(float64(val.Int()))"),
   ("convert", "1 case reflect.Uint8, reflect.Uint16, reflect.Uint32, reflect.Uint64, reflect.Uint"),
   ("convert", "2 return Number(float64(val.Uint()))"),
   ("convert", "1 case reflect.Complex128"),
   ("convert", "2 return Nil{}"),
   ("convert", "1 case reflect.Func"),
   ("convert", "2 return &Func{…}"),
   ("convert", "1 case reflect.Ptr"),
   ("convert", "2 if val.IsValid() && val.Elem().IsValid()"),
   ("convert", "3 if ok"),
   ("convert", "4 for i < val.NumMethod()"),
   ("convert", "3 return newVal"),
   ("convert", "2 return Nil{}"),
   ("convert", "1 case reflect.Uintptr"),
   ("convert", "2 return Nil{}"),
   ("convert", "1 case reflect.Bool"),
   ("convert", "2 return Bool(val.Bool())"),
   ("convert", "1 case reflect.Chan"),
   ("convert", "2 return Nil{}"),
   ("convert", "0 return Nil{}"),
   ("Map.convert", "0 if m.items != nil"),
   ("Map.convert", "1 return "),
   ("Map.convert", "0 if m.o == nil"),
   ("Map.convert", "1 return "),
   ("Map.convert", "0 if !ok"),
   ("Map.convert", "0 for i < val.NumField()"),
   ("Map.convert", "1 if val.Field(i).CanInterface()"),
   ("Map.convert", "0 for i < val.NumMethod()"),
   ("Map.convert", "0 if ok"),
   ("Map.convert", "1 range order"),
   ("Map.Member", "0 if field == \"__assign\""),
   ("Map.Member", "1 return &Func{…}"),
   ("Map.Member", "0 if ok"),
   ("Map.Member", "1 return i"),
   ("Map.Member", "0 if ok"),
   ("Map.Member", "1 return i"),
   ("Map.Member", "0 if ok"),
   ("Map.Member", "1 return i"),
   ("Map.Member", "0 if ok"),
   ("Map.Member", "1 return i"),
   ("Map.Member", "0 if ok"),
   ("Map.Member", "1 return i"),
   ("Map.Member", "0 if ok"),
   ("Map.Member", "1 return i"),
   ("Map.Member", "0 return Nil{}"),
   ("index", "0 if !v.IsValid()"),
   ("index", "1 return reflect.Value{}, fmt.Errorf(\"index of untyped nil\")"),
   ("index", "0 if ok"),
   ("index", "0 else "),
   ("index", "1 if ok"),
   ("index", "1 else "),
   ("index", "2 if ok"),
   ("index", "2 else "),
   ("index", "3 if ok"),
   ("index", "4 return item, nil"),
   ("index", "0 range indices"),
   ("index", "1 if ok"),
   ("index", "2 typeswitch "),
   ("index", "3 case String"),
   ("index", "3 case Number"),
   ("index", "1 else "),
   ("index", "1 if isNil"),
   ("index", "2 return reflect.Value{}, fmt.Errorf(\"index of nil pointer\")"),
   ("index", "1 switch v.Kind()"),
   ("index", "2 case reflect.Array, reflect.Slice, reflect.String"),
   ("index", "3 switch index.Kind()"),
   ("index", "4 case reflect.Int, reflect.Int8, reflect.Int16, reflect.Int32, reflect.Int64"),
   ("index", "4 case reflect.Uint, reflect.Uint8, reflect.Uint16, reflect.Uint32, reflect.Uint64, reflect.Uintptr"),
   ("index", "4 case reflect.Float64"),
   ("index", "4 case reflect.Invalid"),
   ("index", "5 return reflect.Value{}, fmt.Errorf(\"cannot index slice/array with nil\")"),
   ("index", "4 case "),
   ("index", "5 if !ok"),
   ("index", "6 return reflect.Value{}, fmt.Errorf(\"cannot index slice/array with type %s\", index.Type())"),
   ("index", "3 if x < 0 || x >= int64(v.Len())"),
   ("index", "4 return reflect.ValueOf(Nil{}), nil"),
   ("index", "2 case reflect.Map"),
   ("index", "3 if index.String() != \"\""),
   ("index", "3 if err != nil"),
   ("index", "4 return reflect.Value{}, err"),
   ("index", "3 if x.IsValid()"),
   ("index", "3 else "),
   ("index", "4 return reflect.ValueOf(Nil{}), nil"),
   ("index", "2 case reflect.Invalid"),
   ("index", "2 case "),
   ("index", "3 return reflect.Value{}, fmt.Errorf(\"can'e index item of type %s\", v.Type())"),
   ("index", "0 return v, nil")]

/-- **C11 (the model's tie to the code, by shape).** The two tables are the same list of literals: `rfl` compares them
structurally, where `decide` would evaluate `String.decEq` byte by byte. -/
theorem C11_convert_skeleton : Gen.convertSkeleton_ok = true ∧ Gen.convertSkeleton = expected_convertSkeleton :=
  ⟨rfl, rfl⟩

end Pug.Props.C11
