import PugProofs.C02.EachDoc
import PugProofs.C01.EndToEnd
import PugProofs.C03.Frame
/-!
# C02 — conditionals, case, each and while select and repeat exactly as pug prescribes

Theorems over the executor model (`Pug.Tpl`, tied to tpl_exec.go by the correspondence check; the iteration cap and its
comparison operator are generated from walkRange). Loop bodies and tests are *arbitrary* actions of the execution monad,
so the statements cover every nesting. Through the whole pipeline - transpiler, text merging, trim markers, template parser,
executor: `if e … else …` over two static bodies (`C02_if_end_to_end`) and `each v in x` over a static body
(`C02_each_end_to_end`); the object literal keeps the written order of its keys (`C02_object_literal_order`, `_compiles`).
-/
namespace Pug.Props.C02
open Pug Pug.Tpl

theorem C02_extract : Gen.whileCap_ok = true ∧ Gen.whileCapCmp_ok = true := by decide

/-- "a fixed bound of about ten thousand iterations" -/
theorem C02_cap_about_ten_thousand : Gen.whileCapCmp = ">" ∧ 9000 ≤ Gen.whileCap ∧ Gen.whileCap ≤ 11000 := by decide

theorem overCap_iff (i : Nat) : overCap i = true ↔ i > Gen.whileCap := by
  simp [overCap, Gen.whileCapCmp]

theorem overCap_succ_of_lt {i : Nat} (hi : i < Gen.whileCap) : overCap (i + 1) = false :=
  Bool.eq_false_iff.mpr fun h => by have := (overCap_iff _).mp h; omega

/-- one unfolding of the while loop: body, test, cap check, then continue / stop -/
theorem loopM_step (body : M Unit) (test : M Val) (fuel i : Nat) (s s1 s2 : St) (v : Val)
    (hb : body s = .ok ((), s1)) (ht : test s1 = .ok (v, s2)) :
    loopM body test (fuel + 1) i s =
      (if overCap (i + 1) then execErr s!"max iteration of {Gen.whileCap} in while loop"
       else match v with
        | .B true | .bool true => loopM body test fuel (i + 1)
        | .B false | .bool false => pure ()
        | _ => throwE (.panic "reflect: call of reflect.Value.Bool on non-bool Value")) s2 := by
  rw [loopM, bind_ok hb, bind_ok ht]
  rfl

/-- **C02 (while never hangs).** A loop whose body always succeeds and whose test stays true ends with an execution error
after `whileCap + 1` iterations, needing only `whileCap + 1` units of fuel — it does not run forever. -/
theorem C02_while_never_hangs (body : M Unit) (test : M Val)
    (hb : ∀ s, ∃ s', body s = .ok ((), s'))
    (ht : ∀ s, ∃ s', test s = .ok (.B true, s')) :
    ∀ (k i fuel : Nat) (s : St), i + k = Gen.whileCap → fuel ≥ k + 1 →
      ∃ msg, loopM body test fuel i s = .error (.exec msg) := by
  intro k i fuel
  induction fuel generalizing k i with
  | zero => exact fun _ _ hf => absurd hf (Nat.not_succ_le_zero k)
  | succ f ih =>
    intro s hik hf
    obtain ⟨s1, hb1⟩ := hb s
    obtain ⟨s2, ht1⟩ := ht s1
    rw [loopM_step body test f i s s1 s2 _ hb1 ht1]
    cases k with
    | zero => exact ⟨_, congrFun (if_pos ((overCap_iff _).mpr (hik ▸ Nat.lt_succ_self _))) s2⟩
    | succ k =>
      rw [overCap_succ_of_lt (hik ▸ Nat.lt_add_of_pos_right (Nat.succ_pos k))]
      exact ih k (i + 1) s2 (Nat.succ_add_eq_add_succ i k ▸ hik) (Nat.le_of_succ_le_succ hf)

/-- **C02 (while stops when the test turns false).** If, from state `s`, the test is false after the first pass through the
body, the loop ends normally after exactly that one pass (no error, whatever the counter below the cap). -/
theorem C02_while_stops (body : M Unit) (test : M Val) (fuel i : Nat) (s s1 s2 : St)
    (hb : body s = .ok ((), s1)) (ht : test s1 = .ok (.B false, s2)) (hi : i < Gen.whileCap) :
    loopM body test (fuel + 1) i s = .ok ((), s2) := by
  rw [loopM_step body test fuel i s s1 s2 _ hb ht, overCap_succ_of_lt hi]; rfl

/-- **C02 (while continues while the test is true).** -/
theorem C02_while_continues (body : M Unit) (test : M Val) (fuel i : Nat) (s s1 s2 : St)
    (hb : body s = .ok ((), s1)) (ht : test s1 = .ok (.B true, s2)) (hi : i < Gen.whileCap) :
    loopM body test (fuel + 1) i s = loopM body test fuel (i + 1) s2 := by
  rw [loopM_step body test fuel i s s1 s2 _ hb ht, overCap_succ_of_lt hi]; rfl

/-! ## variables persist: the stack is never popped -/

theorem lookupVar_append_same (vars : List (String × Val)) (x : String) (v : Val) :
    lookupVar (vars ++ [(x, v)]) x = v := by
  simp [lookupVar, List.reverse_append]

/-! ## conditionals: exactly the first branch whose test is truthy -/

/-- **C02 (if / else).** One conditional renders its `then` body iff the test value is truthy, else its `else` body (which is
empty when there is none) - for EVERY test expression and bodies. -/
theorem C02_if_selects (fuel : Nat) (env : Env) (c : TExpr) (thn els : List TNode) (st st' : St) (v : Val)
    (hc : evalExpr fuel c st = .ok (v, st')) :
    walk (fuel + 1) env (.ite c thn els) st =
      (if truth st'.heap v then walkList fuel env thn st' else walkList fuel env els st') := by
  rw [walk, bind_ok hc, bind_ok (getHeap_run st')]
  split <;> rfl

/-- an `if / else if / ... / else` chain as the template parser nests it -/
def chain : List (TExpr × List TNode) → List TNode → List TNode
  | [], els => els
  | (c, thn) :: rest, els => [.ite c thn (chain rest els)]

/-- the branch JavaScript / pug selects: the body of the first test whose value is truthy, else the `else` body -/
def selected (h : Heap) : List (Val × List TNode) → List TNode → List TNode
  | [], els => els
  | (v, thn) :: rest, els => if truth h v then thn else selected h rest els

/-- **C02 (else-if chains).** For EVERY chain length: if the tests evaluate (without changing the state, as expression tests do)
to the values `vs`, the chain renders exactly the selected branch - the first truthy one, or the else body, or nothing. -/
theorem C02_if_chain (env : Env) (st : St) (branches : List (TExpr × List TNode)) (vs : List Val) (els : List TNode)
    (hlen : vs.length = branches.length) (fmin : Nat)
    (htests : ∀ i (hi : i < branches.length), ∀ f, fmin ≤ f →
      evalExpr f (branches[i].1) st = .ok (vs[i]'(by omega), st))
    (fuel : Nat) (hf : fmin + 2 * branches.length < fuel) :
    ∃ f', fmin ≤ f' ∧ f' ≤ fuel ∧
      walkList fuel env (chain branches els) st =
        walkList f' env (selected st.heap (vs.zip (branches.map (·.2))) els) st := by
  induction branches generalizing vs fuel with
  | nil =>
    cases vs with
    | nil => exact ⟨fuel, Nat.le_of_lt hf, Nat.le_refl _, rfl⟩
    | cons _ _ => simp at hlen
  | cons b rest ih =>
    obtain ⟨c, thn⟩ := b
    cases vs with
    | nil => simp at hlen
    | cons v vs' =>
      rw [List.length_cons, Nat.mul_succ, ← Nat.add_assoc] at hf
      obtain ⟨f, rfl⟩ := Nat.exists_eq_add_of_le' (Nat.le_trans (Nat.le_add_left 2 _) (Nat.le_of_lt hf))
      have hf' : fmin + 2 * rest.length < f := Nat.lt_of_add_lt_add_right hf
      have hmin : fmin ≤ f := Nat.le_trans (Nat.le_add_right ..) (Nat.le_of_lt hf')
      rw [chain, walkList_singleton, C02_if_selects f env c thn (chain rest els) st st v (htests 0 (Nat.zero_lt_succ _) f hmin)]
      by_cases ht : truth st.heap v = true
      · exact ⟨f, hmin, Nat.le_add_right .., by simp [selected, ht]⟩
      · obtain ⟨f', h1, h2, h3⟩ := ih vs' (Nat.succ.inj hlen) (fun i hi => htests (i + 1) (Nat.succ_lt_succ hi)) f hf'
        exact ⟨f', h1, Nat.le_trans h2 (Nat.le_add_right ..), by simp [selected, ht, h3]⟩

/-! ## each: once per element, in order, index / key bound -/

/-- **C02 (each over an array).** The iteration list of an array is its elements in order, paired with the indices 0, 1, 2, ... -/
theorem C02_each_array_items (a : Nat) (st : St) :
    rangeKind (.arr a) st =
      .ok (.items ((st.heap.getArr a).zipIdx.map fun (x, i) => (Val.int i, x)), st) := by
  simp [rangeKind]

/-- `range` over an array: the declared variables are pushed, the collection is evaluated and assigned to each of them, then one
iteration per element -/
theorem walk_range_arr {fuel : Nat} {decl : List String} {e : TExpr} {st st' : St} {a : Nat} (env : Env) (body : List TNode)
    (he : evalExpr fuel e { st with vars := st.vars ++ decl.map fun d => ("$" ++ d, Val.invalid) } = .ok (.arr a, st')) :
    walk (fuel + 1) env (.range decl e body) st =
      walkItems fuel env decl body ((st'.heap.getArr a).zipIdx.map fun (x, i) => (Val.int i, x))
        { st' with vars := decl.foldl (fun vs d => setVarIn vs ("$" ++ d) (.arr a)) st'.vars } := by
  rw [walk, bind_ok (modify_run ..), bind_ok he, bind_ok (modify_run ..), bind_ok (C02_each_array_items ..)]

/-- **C02 (each over an object with insertion order).** The iteration visits the keys in insertion order (those still
present), each bound to its member. -/
theorem C02_each_object_items (a : Nat) (st : St) (ho : (st.heap.getMap a).order.length > 0) :
    ∃ l, rangeKind (.map a) st = .ok (.items l, st) ∧
      l = ((st.heap.getMap a).order.filter fun k => (assocGet (st.heap.getMap a).items k).isSome).map
            fun k => (Val.str k, mapMember (st.heap.getMap a) k) := by
  refine ⟨_, by simp [rangeKind, ho]; rfl, ?_⟩
  rw [← List.filterMap_eq_filter, List.map_filterMap]
  congr 1
  funext k
  cases h : assocGet (st.heap.getMap a).items k <;> simp [Option.guard, h]

/-- **C02 (a member that is present but null is still a member).** A key of the insertion order whose value is null / undefined
(`{first: user.first, middle: user.middle}` without a middle name in the data) is visited like every other key - presence is decided by
the key, never by the value. (Seeded change C02-13 answered `HasMember` through `Member()` and dropped exactly these iterations.) -/
theorem C02_each_object_null_member_visited (a : Nat) (st : St) (ho : (st.heap.getMap a).order.length > 0) (k : String) (w : Val)
    (hk : k ∈ (st.heap.getMap a).order) (hp : assocGet (st.heap.getMap a).items k = some w) :
    ∃ l, rangeKind (.map a) st = .ok (.items l, st) ∧ (Val.str k, mapMember (st.heap.getMap a) k) ∈ l := by
  obtain ⟨l, h1, rfl⟩ := C02_each_object_items a st ho
  exact ⟨_, h1, List.mem_map.mpr ⟨k, List.mem_filter.mpr ⟨hk, by simp [hp]⟩, rfl⟩⟩

theorem opMapPairs_length (h : Heap) : ∀ (kvs : List Val) (ps : List (String × Val)), opMapPairs h kvs = .ok ps → 2 * ps.length = kvs.length
  | k :: v :: rest, ps, hp => by
    unfold opMapPairs at hp
    split at hp
    · cases hp
    · cases hr : opMapPairs h rest with
      | error e => rw [hr] at hp; cases hp
      | ok qs =>
        rw [hr] at hp
        cases hp
        rw [List.length_cons, List.length_cons, List.length_cons, Nat.mul_succ, opMapPairs_length h rest qs hr]
  | [], ps, hp => by cases hp; rfl
  | [_], ps, hp => by simp [opMapPairs] at hp

/-- **C02 (an object literal keeps the order its keys were written in).** For EVERY operand list of the object-literal helper
`__op__map` and every state: if the helper returns, the result is ONE new map whose insertion order is exactly the key texts in the
order they were written - one per key / value pair - and every other array, map and the rest of the state is untouched. Together with
`C02_each_object_items` this is "each walks an object literal in the order it was written". -/
theorem C02_object_literal_order (kvs : List Val) (st st' : St) (v : Val) (h : callBuiltin "__op__map" kvs st = .ok (v, st')) :
    ∃ ps, opMapPairs st.heap kvs = .ok ps ∧ 2 * ps.length = kvs.length ∧ v = .map st.heap.maps.length ∧
      (st'.heap.getMap st.heap.maps.length).order = ps.map (·.1) ∧
      (∀ a, a < st.heap.arrs.length → st'.heap.getArr a = st.heap.getArr a) ∧
      (∀ a, a < st.heap.maps.length → st'.heap.getMap a = st.heap.getMap a) ∧ st'.vars = st.vars ∧ st'.out = st.out := by
  rw [callBuiltin_map] at h
  unfold opMap at h
  cases hp : opMapPairs st.heap kvs with
  | error e => simp [hp, throwE] at h
  | ok ps =>
    simp only [hp] at h
    obtain ⟨g, hv⟩ := C03F.allocMap_grows _ _ _ _ h
    obtain ⟨h1, _, h3, _, _, _⟩ := g.rest
    cases h
    exact ⟨ps, rfl, opMapPairs_length _ _ _ hp, hv, congrArg MapObj.order (Heap.getMap_allocMap_new ..), g.getArr, g.getMap, h1, h3⟩

/-- two lists related element by element (same length, same positions) -/
inductive Pairwise2 {α β : Type} (R : α → β → Prop) : List α → List β → Prop
  | nil : Pairwise2 R [] []
  | cons {a : α} {b : β} {l : List α} {r : List β} : R a b → Pairwise2 R l r → Pairwise2 R (a :: l) (b :: r)

theorem mapM_ok_pairwise2 {α β : Type} (f : α → CM β) (R : α → β → Prop) (hf : ∀ a b, f a = .ok b → R a b) :
    ∀ (l : List α) (r : List β), l.mapM f = .ok r → Pairwise2 R l r
  | [], _, h => by cases h; exact .nil
  | a :: l, _, h => by
    obtain ⟨b, bs, ha, hl, rfl⟩ := mapM_cons_ok h
    exact .cons (hf a b ha) (mapM_ok_pairwise2 f R hf l bs hl)

/-- **C02 (the object literal, compile side).** For EVERY object literal (any keys the transpiler accepts, any values, any nesting) the
transpiler emits ONE call of `__op__map` whose operands are, pair by pair and in the order written, the key as a string literal and
the compiled value: no pair is dropped, merged or moved. With `C02_object_literal_order` (run side) and `C02_each_object_items`:
`each` walks an object literal in the order it was written. -/
theorem C02_object_literal_compiles (fuel : Nat) (env : CEnv) (kvs : List (String × JS.Expr)) (t : Option TExpr)
    (h : compileExprF (fuel + 1) env (.obj kvs) = .ok t) :
    ∃ r : List (List TExpr), t = some (.fcall "__op__map" r.flatten) ∧
      Pairwise2 (fun (kv : String × JS.Expr) (x : List TExpr) => ∃ tv, x = [.lit (.str kv.1), tv]) kvs r := by
  rw [compileExprF] at h
  obtain ⟨r, hr, h⟩ := except_bind_eq_ok h
  cases h
  refine ⟨r, rfl, mapM_ok_pairwise2 _ _ ?_ kvs r hr⟩
  intro ⟨k, v⟩ b hab
  change (if badChars k = true then _ else _) = _ at hab
  by_cases hk : badChars k = true
  · rw [if_pos hk] at hab; cases hab
  · rw [if_neg hk] at hab
    obtain ⟨tv, -, hab⟩ := except_bind_eq_ok hab
    cases hab
    exact ⟨tv, rfl⟩

/-- **C02 (each over a missing or null collection renders nothing).** -/
theorem C02_each_missing (v : Val) (hv : v = .nil ∨ v = .invalid) (st : St) :
    rangeKind v st = .ok (.nothing, st) := by
  rcases hv with rfl | rfl <;> simp [rangeKind]

/-- **C02 (one iteration).** With index and element variables declared: bind the index / key, bind the element, render the body,
go on with the remaining elements - for EVERY body and EVERY remaining list. -/
theorem C02_each_step (fuel : Nat) (env : Env) (k v : String) (body : List TNode) (i x : Val) (rest : List (Val × Val)) :
    walkItems (fuel + 1) env [k, v] body ((i, x) :: rest) =
      (do setVar ("$" ++ k) i; setVar ("$" ++ v) x; walkList fuel env body; walkItems fuel env [k, v] body rest) := by
  simp [walkItems]

/-- **C02 (an empty collection renders nothing and changes nothing).** -/
theorem C02_each_empty (fuel : Nat) (env : Env) (decl : List String) (body : List TNode) (st : St) :
    walkItems (fuel + 1) env decl body [] st = .ok ((), st) := by
  rw [walkItems]; rfl

/-! ## the code the model mirrors, by its control skeleton

`Gen.loopSkeleton`: `state.walkRange` and `state.walkIfOrWith` (pugjs/tpl_exec.go): the kinds a loop ranges over, the while loop with its cap test, the else branch, the truth test of if; the control skeleton (conditions, loop headers, returns, in source order with nesting depth; regenerated on every run)
the executor model of `range` / `if` (`Tpl/Exec.lean`) was written against. -/

def expected_loopSkeleton : List (String × String) :=
  [("state.walkRange", "0 defer s.pop"),
   ("state.walkRange", "0 range r.Pipe.Decl"),
   ("state.walkRange", "0 if val.IsValid()"),
   ("state.walkRange", "1 if ok"),
   ("state.walkRange", "2 typeswitch "),
   ("state.walkRange", "3 case *Array"),
   ("state.walkRange", "3 case *Map"),
   ("state.walkRange", "4 if len(obj.order) > 0"),
   ("state.walkRange", "5 range obj.order"),
   ("state.walkRange", "6 if obj.HasMember(index)"),
   ("state.walkRange", "5 return "),
   ("state.walkRange", "3 case Nil"),
   ("state.walkRange", "1 else "),
   ("state.walkRange", "0 switch val.Kind()"),
   ("state.walkRange", "1 case reflect.Array, reflect.Slice"),
   ("state.walkRange", "2 if val.Len() == 0"),
   ("state.walkRange", "3 break "),
   ("state.walkRange", "2 for i < val.Len()"),
   ("state.walkRange", "2 return "),
   ("state.walkRange", "1 case reflect.Map"),
   ("state.walkRange", "2 if val.Len() == 0"),
   ("state.walkRange", "3 break "),
   ("state.walkRange", "2 range sortKeys(val.MapKeys())"),
   ("state.walkRange", "2 return "),
   ("state.walkRange", "1 case reflect.Chan"),
   ("state.walkRange", "2 if val.IsNil()"),
   ("state.walkRange", "3 break "),
   ("state.walkRange", "2 for "),
   ("state.walkRange", "3 if !ok"),
   ("state.walkRange", "4 break "),
   ("state.walkRange", "2 if i == 0"),
   ("state.walkRange", "3 break "),
   ("state.walkRange", "2 return "),
   ("state.walkRange", "1 case reflect.Bool"),
   ("state.walkRange", "2 for val.Bool()"),
   ("state.walkRange", "3 if i > 10000"),
   ("state.walkRange", "2 return "),
   ("state.walkRange", "1 case reflect.Invalid"),
   ("state.walkRange", "2 break "),
   ("state.walkRange", "1 case "),
   ("state.walkRange", "0 if r.ElseList != nil"),
   ("state.walkIfOrWith", "0 if !ok"),
   ("state.walkIfOrWith", "0 if truth"),
   ("state.walkIfOrWith", "1 if typ == parse.NodeWith"),
   ("state.walkIfOrWith", "1 else "),
   ("state.walkIfOrWith", "0 else "),
   ("state.walkIfOrWith", "1 if elseList != nil")]

/-- **C02 (the model's tie to the code, by shape).** -/
theorem C02_loop_skeleton : Gen.loopSkeleton_ok = true ∧ Gen.loopSkeleton = expected_loopSkeleton :=
  ⟨rfl, rfl⟩

/-! ## a conditional through the whole pipeline -/

open Pug.JS Pug.Props.C01S Pug.Props.C06S Pug.Props.C02D Pug.Driver in
/-- **C02 (if / else, end to end through the model of LoadTemplates + Render).** Page data: any JSON object with string / number /
boolean values. Document: `if e` … `else` … for ANY well-formed scalar test `e` (variables, comparisons, arithmetic, `&&` `||` `!`,
any nesting) and ANY two static bodies (text with any characters, doctype, attribute-less tags, any nesting). Data conversion,
transpiler, text merging, trim markers, the template parser's nesting and the executor together print exactly the body JavaScript's
truth value of the test selects - never both, never the other one - with the white space that directly borders the `if` / `else`
marker removed from the front of the body's first text (`trimHead`) and nothing else changed; `A`, `B` are the transpiled bodies,
whose text is the reference serialisation of the two subtrees. -/
theorem C02_if_end_to_end (o : Std.TreeMap.Raw String Lean.Json) (svs : SEnv) (hd : ScalarData o svs)
    (hg : ∀ kv ∈ svs, kv.1 ≠ "global") (e : SExpr) (r : SVal) (thn els : List Node)
    (hw : WF { funcs := engineFuncs ++ [], parserFuncs := engineFuncs ++ [] ++ builtinNames } e) (hdepth : e.depth < 40000)
    (hv : sEval svs e = some r) (hthn : staticListF 99998 thn = true) (hels : staticListF 99998 els = true) :
    ∃ A B, Plain A ∧ fragsStr A = serListF 99998 thn ∧ Plain B ∧ fragsStr B = serListF 99998 els ∧
      (A.length + B.length + 100000 < 100000000 →
        renderModel [.cond e.toExpr thn (some els)] (.obj o) [] false =
          okOut (fragsStr (trimHead (mergeTexts (if sToBool r then A else B))))) := by
  obtain ⟨A, B, _, a2, a3, _, b2, b3, hc⟩ :=
    compileDoc_if (renderEnv false) rfl e hw (Nat.lt_trans hdepth (by decide)) thn els hthn hels
  refine ⟨A, B, a2, a3, b2, b3, fun hlen => renderModel_of_walk hc ?_⟩
  obtain ⟨v, hev, rv⟩ := eval_scalar svs e r hv (initState (.obj o)) (agree_initState o svs hd hg) 99999998 (by omega)
  have lA := body_length A
  have lB := body_length B
  rw [walkList_singleton, C02_if_selects _ _ _ _ _ _ _ _ hev, truth_rep _ rv]
  cases sToBool r
  · exact walk_nodes _ _ (body_plain b2) _ _ (by omega)
  · exact walk_nodes _ _ (body_plain a2) _ _ (by omega)

/-! ## a loop through the pipeline -/

open Pug.JS Pug.Props.C01S Pug.Props.C06S Pug.Props.C02D Pug.Props.C02E Pug.Driver in
/-- **C02 (each, through transpiler, merge, trim, nesting and executor).** Document: `each v in x` over ANY static body, `x` any
variable that is not a template function. The transpiled, merged, trimmed and nested template is one `range` node over the body;
and from EVERY execution state in which `x` holds an array (whatever its elements, however many), executing it prints the body -
its first text left-trimmed at the loop marker, nothing else changed - exactly once per element, in one piece, and leaves the heap
as it was. -/
theorem C02_each_end_to_end (x v : String) (kids : List Node)
    (hx : (engineFuncs ++ ([] : List String)).contains x = false) (hk : staticListF 99998 kids = true) :
    ∃ A, Plain A ∧ fragsStr A = serListF 99998 kids ∧
      compileDoc { funcs := engineFuncs ++ [], parserFuncs := engineFuncs ++ [] ++ builtinNames } [.each v "" (.ident x) kids] =
        .ok { main := [.range [v] (.var x) (nodesOf (trimHead (mergeTexts A)))], defs := [] } ∧
      ∀ (st : St) (a : Nat) (fuel : Nat),
        lookupVar (st.vars ++ [("$" ++ v, Val.invalid)]) ("$" ++ x) = .arr a →
        (st.heap.getArr a).length + A.length + 6 < fuel →
        ∃ st', walkList fuel { defs := [] } [.range [v] (.var x) (nodesOf (trimHead (mergeTexts A)))] st = .ok ((), st') ∧
          st'.out = st.out ++ rep (fragsStr (trimHead (mergeTexts A))) (st.heap.getArr a).length ∧ st'.heap = st.heap := by
  obtain ⟨A, _, a2, a3, hc⟩ := compileDoc_each (renderEnv false) rfl x v hx kids hk
  refine ⟨A, a2, a3, hc, fun st a fuel hlook hf => ?_⟩
  obtain ⟨f, rfl⟩ := Nat.exists_eq_add_of_le' (Nat.le_trans (Nat.le_add_left 3 _) (Nat.le_of_lt hf))
  have he := evalExpr_var (st := { st with vars := st.vars ++ [("$" ++ v, Val.invalid)] }) f hlook
  rw [walkList_singleton, walk_range_arr _ _ he]
  obtain ⟨st', h1, h2, h3⟩ := walkItems_static { defs := [] } v (body A) (body_plain a2)
    ((st.heap.getArr a).zipIdx.map fun (p : Val × Nat) => (Val.int p.2, p.1)) (f + 1)
    { st with vars := setVarIn (st.vars ++ [("$" ++ v, Val.invalid)]) ("$" ++ v) (.arr a) }
    (by rw [List.length_map, List.length_zipIdx]; have := body_length A; omega)
  exact ⟨st', h1, by simpa using h2, h3⟩

end Pug.Props.C02
