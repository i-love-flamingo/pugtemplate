import PugModel.Sys.Assets
import PugModel.Gen.Tables
import PugProofs.Guard
/-!
# C19 — static assets are served only from the dist directory; CORS follows the whitelist
-/
namespace Pug.Props.C19
open Pug.Sys

def Plain (x : String) : Prop := x ≠ "" ∧ x ≠ "." ∧ x ≠ ".."

theorem normSegs_plain (segs acc : List String) (hacc : ∀ x ∈ acc, Plain x) : ∀ x ∈ normSegs segs acc, Plain x := by
  induction segs generalizing acc with
  | nil => exact fun x hx => hacc x (List.mem_reverse.mp hx)
  | cons s rest ih =>
    unfold normSegs
    split
    · exact ih acc hacc
    · rename_i h1
      split
      · exact ih acc.tail (fun x hx => hacc x (List.mem_of_mem_tail hx))
      · rename_i h2
        apply ih
        intro x hx
        rcases List.mem_cons.mp hx with rfl | hx
        · simp only [Bool.or_eq_true, beq_iff_eq, not_or] at h1
          exact ⟨h1.1, h1.2, by simpa using h2⟩
        · exact hacc x hx

/-- **C19 (cleaned, rooted).** For every string, the segments of `path.Clean("/" ++ s)` contain no `..`, no `.` and no
empty segment: the cleaned path cannot climb above its root. -/
theorem C19_clean_rooted (s : String) : ∀ x ∈ normSegs (splitSlash s) [], Plain x :=
  normSegs_plain _ [] (by simp)

/-- **C19 (lexical containment).** For every request path, the name handed to the OS is `frontend/dist/` followed by
segments none of which is `..`, `.` or empty — whatever dot segments, doubled prefixes or `/assets/` fragments the path holds. -/
theorem C19_contained (upath : String) : ∀ x ∈ openedSegs upath, Plain x :=
  C19_clean_rooted _

/-- **C19 (only inside regular files are served).** A 200 carries the bytes of a file of the dist tree, the one at the opened name. -/
theorem C19_serve_inside (files dirs : List String) (upath rel : String) (h : serve files dirs upath = .file rel) :
    rel ∈ files ∧ rel = "/".intercalate (openedSegs upath) := by
  unfold serve at h
  split at h
  · cases h
  · split at h
    · rename_i h2
      split at h
      · cases h
      · cases h
        exact ⟨List.contains_iff_mem.mp h2, rfl⟩
    · cases h

/-- **C19 (a directory is never content).** A name that is not a regular file of the tree (a directory, a missing file) is refused. -/
theorem C19_no_dir (files dirs : List String) (upath : String) (h : ¬ ("/".intercalate (openedSegs upath)) ∈ files) :
    serve files dirs upath = .redirect ∨ serve files dirs upath = .refused := by
  cases hs : serve files dirs upath with
  | file rel => obtain ⟨hm, rfl⟩ := C19_serve_inside files dirs upath rel hs; exact absurd hm h
  | redirect => exact .inl rfl
  | refused => exact .inr rfl

/-- **C19 (CORS).** With the test in the shape read from module.go, the header is set only when the origin is a member of
the whitelist or the whitelist contains `*` — for every origin string and every whitelist (also origins containing `!`,
the empty origin, the empty whitelist). -/
theorem C19_cors (whitelist : List String) (origin : String) (h : corsAllowed Gen.corsTest whitelist origin = true) :
    origin ∈ whitelist ∨ "*" ∈ whitelist := by
  have hs : Gen.corsTest = "exact" := rfl
  simp only [hs, corsAllowed, if_true, Bool.and_eq_true, Bool.or_eq_true, List.contains_iff_mem, beq_self_eq_true] at h
  exact h.2

/-- facts about the handler read from the source: the header value is the request's origin, assets come from frontend/dist/,
Open strips the first /assets/ and refuses directories and stat errors -/
theorem C19_shape :
    Gen.corsTest_ok = true ∧ Gen.corsHeaderIsOrigin = true ∧ Gen.assetDir = "frontend/dist/" ∧ (Gen.assetOpenShape.all (·.2)) = true ∧
    Gen.assetOpenShape.length = 2 := ⟨rfl, rfl, rfl, rfl, rfl⟩

/-! ## assetFileSystem.Open, translated statement by statement -/

open Pug.Gen in
/-- the check on one run of `Open`: if the file handle is returned, then the open succeeded, the stat succeeded, the name is
not a directory, and both calls were made before -/
def openCheck (p : List Gen.GStmt) (v : String → Bool) : Bool :=
  match Gen.GStmt.run v p [] with
  | some (out, done) =>
    if out == "serve" then !(v "openErr") && !(v "statErr") && !(v "isDir") && done.contains "open" && done.contains "stat"
    else true
  | none => false       -- falling off the end without a return is not a Go function

/-- everything `openCheck p` reads of the valuation -/
def openAtoms (p : List Gen.GStmt) : List String := Gen.GStmt.atoms p ++ ["openErr", "statErr", "isDir"]

theorem openCheck_congr (p : List Gen.GStmt) (v w : String → Bool) (h : ∀ a ∈ openAtoms p, v a = w a) :
    openCheck p v = openCheck p w := by
  have h3 : ∀ a ∈ ["openErr", "statErr", "isDir"], v a = w a := fun a ha => h a (List.mem_append_right _ ha)
  unfold openCheck
  rw [Gen.GStmt.run_congr p v w [] fun a ha => h a (List.mem_append_left _ ha),
    h3 "openErr" (.head _), h3 "statErr" (.tail _ (.head _)), h3 "isDir" (.tail _ (.tail _ (.head _)))]

/-- **C19 (Open never hands out a directory).** For EVERY outcome of the file-system calls and EVERY value of any condition
the translator does not interpret: `assetFileSystem.Open`, as it is written in module.go now, returns the file only after a
successful open and stat of a name that is not a directory. -/
theorem C19_open_refuses_directories (v : String → Bool) :
    Gen.assetOpenProg_ok = true ∧ openCheck Gen.assetOpenProg v = true :=
  ⟨rfl, Gen.forall_vals (openAtoms _) _ (openCheck_congr Gen.assetOpenProg) (by decide +kernel) v⟩

/-- unfolding of the check: what `C19_open_refuses_directories` says about a run that serves -/
theorem C19_open_serves_only_regular (v : String → Bool) (done : List String)
    (h : Gen.GStmt.run v Gen.assetOpenProg [] = some ("serve", done)) :
    v "openErr" = false ∧ v "statErr" = false ∧ v "isDir" = false ∧ "open" ∈ done ∧ "stat" ∈ done := by
  simpa [openCheck, h, and_assoc] using (C19_open_refuses_directories v).2

/-- non-vacuity: a run on a regular file serves; a run on a directory refuses -/
example : (Gen.GStmt.run (fun _ => false) Gen.assetOpenProg []).map (·.1) = some "serve" := by decide +kernel
example : (Gen.GStmt.run (fun a => a == "isDir") Gen.assetOpenProg []).map (·.1) = some "refuse" := by decide +kernel

/-! non-vacuity (on explicit segment lists; `String.splitOn` does not reduce in the kernel) -/
example : normSegs ["assets", "..", "..", "secret.txt"] [] = ["secret.txt"] := by decide +kernel
example : normSegs ["", "js", ".", "..", "js", "app.js", ""] [] = ["js", "app.js"] := by decide +kernel

end Pug.Props.C19
