/-! Facts about lists that more than one property needs. The event machines of C09 (render gate) and C16 (startup) answer `none`
for an event that is not enabled, and a run is the step function folded over the list of events in `Option` (`List.foldlM`):
`Pug.Sys.grun` and `Pug.Sys.srun` are such folds; both keep lists of distinct names and extend them at the end. C05 (attribute
records by name) and C16 (processes by id) replace the entries of a key in an association list. -/
namespace Pug

theorem foldlM_invariant {σ ε : Type} {step : σ → ε → Option σ} {P : σ → Prop}
    (hstep : ∀ {s e s'}, P s → step s e = some s' → P s') {es : List ε} {s s' : σ}
    (h0 : P s) (hr : es.foldlM step s = some s') : P s' := by
  induction es generalizing s with
  | nil => exact Option.some.inj hr ▸ h0
  | cons e es ih =>
    rw [List.foldlM_cons] at hr
    obtain ⟨s₁, h1, hr⟩ := Option.bind_eq_some_iff.mp hr
    exact ih (hstep h0 h1) hr

theorem nodup_snoc {α : Type} {l : List α} {a : α} (hn : l.Nodup) (ha : a ∉ l) : (l ++ [a]).Nodup :=
  (List.nodup_cons.mpr ⟨ha, hn⟩).perm (List.perm_append_singleton a l).symm

theorem map_fst_replace {κ β : Type} [BEq κ] [LawfulBEq κ] (l : List (κ × β)) (k : κ) (v : β) :
    (l.map fun e => if e.1 == k then (k, v) else e).map (·.1) = l.map (·.1) := by
  rw [List.map_map]
  refine List.map_congr_left fun e _ => ?_
  by_cases h : e.1 = k <;> simp [h]

end Pug
