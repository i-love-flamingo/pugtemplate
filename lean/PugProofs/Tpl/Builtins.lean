import PugProofs.Tpl.Exec
/-!
What `callBuiltin` does for the function-map entries the theorems speak of, one equation per entry. `callBuiltin` is one large
`match` on the helper's implementation (looked up in the generated tables) and the argument list; the match is unfolded here.
For a Go function or a closure the equation holds of every name whose look-up gives that binding and takes the look-up as a
hypothesis; the entries bound to function literals are matched by their names.
-/
namespace Pug.Tpl

/-- the entries bound to function literals in the funcmap: neither a named Go function nor a comparison closure -/
theorem literal_helpers : ∀ n ∈ ["__if", "__op__array", "__op__map", "__op__map_params", "__tryindex"],
    helperImpl n = none ∧ helperClosure n = none := by decide +kernel

section
variable {name : String} {x y : Val} {st : St}

theorem callBuiltin_add (hi : helperImpl name = some "runtimeAdd") :
    callBuiltin name [x, y] st = ofOpt (runtimeAdd st.heap x y) "add outside domain" st := by
  unfold callBuiltin; simp only [hi, bind_run, getHeap_run]

theorem callBuiltin_sub (hi : helperImpl name = some "runtimeSub") :
    callBuiltin name [x, y] st = ofOpt (runtimeSub x y) "sub outside domain" st := by
  unfold callBuiltin; simp only [hi, bind_run, getHeap_run]

theorem callBuiltin_neg (hi : helperImpl name = some "runtimeSub") :
    callBuiltin name [x] st = ofOpt (runtimeSub (.int 0) x) "sub outside domain" st := by
  unfold callBuiltin; simp only [hi, bind_run, getHeap_run]

theorem callBuiltin_mul (hi : helperImpl name = some "runtimeMul") :
    callBuiltin name [x, y] st = ofOpt (runtimeMul x y) "mul outside domain" st := by
  unfold callBuiltin; simp only [hi, bind_run, getHeap_run]

theorem callBuiltin_quo (hi : helperImpl name = some "runtimeQuo") :
    callBuiltin name [x, y] st = ofOpt (runtimeQuo x y) "division outside domain" st := by
  unfold callBuiltin; simp only [hi, bind_run, getHeap_run]

theorem callBuiltin_rem (hi : helperImpl name = some "runtimeRem") :
    callBuiltin name [x, y] st = ofOpt (runtimeRem x y) "remainder outside domain" st := by
  unfold callBuiltin; simp only [hi, bind_run, getHeap_run]

theorem callBuiltin_not (hi : helperImpl name = some "not") : callBuiltin name [x] st = .ok (.B (!truth st.heap x), st) := by
  unfold callBuiltin; simp only [hi, bind_run, getHeap_run, pure_run]

theorem callBuiltin_lss (hi : helperImpl name = some "runtimeLss") {l : Bool} (hl : runtimeLss x y = some l) :
    callBuiltin name [x, y] st = .ok (.B l, st) := by
  unfold callBuiltin; simp only [hi, bind_run, getHeap_run, boolOf, hl, ofOpt_some, pure_run]

theorem callBuiltin_eql (hi : helperImpl name = some "runtimeEql") {e : Bool} (he : runtimeEql st.heap x y = some e) :
    callBuiltin name [x, y] st = .ok (.B e, st) := by
  unfold callBuiltin; simp only [hi, bind_run, getHeap_run, boolOf, he, ofOpt_some, pure_run]

/-- a comparison the funcmap defines as a closure over the two primitive relations; the model evaluates both relations in both
directions before it applies the closure's body, so all four must be defined -/
theorem callBuiltin_closure {b : Gen.BExpr} (hi : helperImpl name = none) (hc : helperClosure name = some b)
    {l e ls es : Bool} (h1 : runtimeLss x y = some l) (h2 : runtimeEql st.heap x y = some e)
    (h3 : runtimeLss y x = some ls) (h4 : runtimeEql st.heap y x = some es) :
    callBuiltin name [x, y] st = .ok (.B (b.eval l e ls es), st) := by
  unfold callBuiltin; simp only [hi, hc, bind_run, getHeap_run, boolOf, h1, h2, h3, h4, ofOpt_some, pure_run]

/-- `convert` of an operand that `and` / `or` hand back: the zero value stays the zero value -/
def convertKeep (v : Val) : Val := if v.isInvalid then .invalid else convertRaw v

theorem convert_object {v : Val} (hv : v.isObject = true) : convertKeep v = v ∧ convertRaw v = v := by
  cases v <;> simp_all [convertKeep, convertRaw, Val.isObject, Val.isInvalid]

theorem callBuiltin_and (hi : helperImpl name = some "and") :
    callBuiltin name [x, y] st = .ok (convertKeep (if truth st.heap x then y else x), st) := by
  unfold callBuiltin; simp only [hi, bind_run, getHeap_run, pure_run, List.find?]
  cases truth st.heap x <;> cases truth st.heap y <;> rfl

theorem callBuiltin_or (hi : helperImpl name = some "or") :
    callBuiltin name [x, y] st = .ok (if truth st.heap x then convertRaw x else convertKeep y, st) := by
  unfold callBuiltin; simp only [hi, bind_run, getHeap_run, pure_run, List.find?]
  cases hx : truth st.heap x
  · cases hy : truth st.heap y
    · rfl
    · -- a truthy value is not the zero value
      have : y.isInvalid = false := by cases y <;> first | rfl | cases hy
      simp only [convertKeep, this]; rfl
  · rfl

theorem callBuiltin_if {t : Val} : callBuiltin "__if" [t, x, y] st = .ok (convertRaw (if truth st.heap t then x else y), st) := by
  unfold callBuiltin; simp only [literal_helpers "__if" (by simp), bind_run, getHeap_run, pure_run]

end

section
variable (x y : Val) (st : St)

theorem callBuiltin_tryindex (a i : Nat) :
    callBuiltin "__tryindex" [.arr a, .int i] st = .ok ((st.heap.getArr a).getD i .nil, st) := by
  unfold callBuiltin; simp only [literal_helpers "__tryindex" (by simp)]
  simp [Int.not_lt.mpr (Int.natCast_nonneg i)]

theorem callBuiltin_array (items : List Val) : callBuiltin "__op__array" items = allocArr (items.map convertRaw) := by
  unfold callBuiltin; simp only [literal_helpers "__op__array" (by simp)]; rfl

theorem callBuiltin_map (kvs : List Val) : callBuiltin "__op__map" kvs st = opMap st.heap kvs st := by
  unfold callBuiltin; simp only [literal_helpers "__op__map" (by simp), bind_run, getHeap_run]

theorem callBuiltin_map_params (kvs : List Val) : callBuiltin "__op__map_params" kvs = mapParams kvs := by
  unfold callBuiltin; simp only [literal_helpers "__op__map_params" (by simp)]; rfl

end

end Pug.Tpl
