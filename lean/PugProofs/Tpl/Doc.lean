import PugModel.Driver.Render
import PugProofs.Tpl.Frags
import PugProofs.Tpl.Quote
/-!
The transpiler on whole documents without mixins: equations of `compileNodeF` per node kind; `FragInv`, what the transpiler keeps
of the fragments of a document without code; `collectMixinDefsF` per node kind (`NoMixins`); the shape of `compileDoc` when there is
nothing to hoist (`parseBody_*`, `compileDoc_simple`); and `renderModel` for a document whose fragments are flat (`render_flat`).
-/
namespace Pug.Tpl
open Pug Pug.Driver

theorem compileNodesF_ok {f : Nat} {env : CEnv} {ns : List Node} {fss : List (List Frag)}
    (h : ns.mapM (compileNodeF f env) = .ok fss) : compileNodesF (f + 1) env ns = .ok fss.flatten := by
  simp [compileNodesF, h]

/-- `99999 = nodeFuel - 1`: `compileNodes` spends one unit of fuel on the list -/
theorem compileNodes_single {env : CEnv} {n : Node} {fs : List Frag} (h : compileNodeF 99999 env n = .ok fs) :
    compileNodes env [n] = .ok fs := by
  simpa [compileNodes, nodeFuel] using
    compileNodesF_ok (ns := [n]) (fss := [fs]) (by simp [h])

theorem compileNodeF_text (f : Nat) (env : CEnv) (s : String) :
    compileNodeF (f + 1) env (.text s) = .ok (quoteChars s.toList []) := rfl

theorem compileNodeF_doctype (f : Nat) (env : CEnv) (v : String) :
    compileNodeF (f + 1) env (.doctype v) = .ok [.text ("<!DOCTYPE " ++ v ++ ">\n")] := rfl

theorem compileNodeF_codeBuf (f : Nat) (env : CEnv) (e : JS.Expr) (esc inl : Bool) :
    compileNodeF (f + 1) env (.codeBuf e esc inl) = compileBuffered env e esc := rfl

def sepIf (b : Bool) : List Frag := if b then debugSep else []

/-- what a tag without attributes compiles to, given the fragments of its children; `sepIf`: the separators of debug mode, behind
the start tag and the children if a child is block-level, behind the whole if the tag is -/
def tagFrags (dbg : Bool) (name : String) (inl kidsInl : Bool) (sub : List Frag) : List Frag :=
  (if voidTags.contains name then [.text ("<" ++ name), .text ">"]
   else [.text ("<" ++ name), .text ">"] ++ sepIf (!kidsInl && dbg) ++ sub ++ sepIf (!kidsInl && dbg) ++ [.text ("</" ++ name ++ ">")])
    ++ sepIf (!inl && dbg)

theorem compileNodeF_tag {f : Nat} {env : CEnv} {name : String} (hn : name ≠ "script") (inl : Bool) {kids : List Node}
    {sub : List Frag} (h : compileNodesF f env kids = .ok sub) :
    compileNodeF (f + 1) env (.tag name inl [] [] kids) = .ok (tagFrags env.debug name inl (kids.all nodeInline) sub) := by
  have hs : (name == "script") = false := by simpa using hn
  rw [compileNodeF]
  simp only [h, compileAttrs, hs, List.isEmpty_nil, Bool.and_self, Bool.false_and, Bool.false_eq_true, ↓reduceIte, except_ok_bind,
    except_pure, tagFrags]
  -- what is left branches, like `tagFrags`, on: void element, a block-level child in debug mode, block-level in debug mode
  cases voidTags.contains name <;> cases (!kids.all nodeInline && env.debug) <;> cases (!inl && env.debug) <;> simp [sepIf]

end Pug.Tpl

/-! in the namespace of `MSer` (C06/Mixed.lean), the tree relation in the statement of C04's whole-document theorem, which
mentions them -/
namespace Pug.Props.MixedS

def Rel2 {α β : Type} (R : α → β → Prop) : List α → List β → Prop
  | [], [] => True
  | a :: as, b :: bs => R a b ∧ Rel2 R as bs
  | _, _ => False

def cat (outs : List String) : String := outs.foldr (· ++ ·) ""

theorem rel2_map {α β : Type} {Q : α → Prop} (g : α → β) : ∀ {l : List α}, (∀ a ∈ l, Q a) → Rel2 (fun a b => Q a ∧ b = g a) l (l.map g)
  | [], _ => trivial
  | a :: _, h => ⟨⟨h a List.mem_cons_self, rfl⟩, rel2_map g fun b hb => h b (List.mem_cons_of_mem _ hb)⟩

end Pug.Props.MixedS

namespace Pug.Tpl
open Pug Pug.Driver
open Pug.Props.MixedS (Rel2 cat)

/-- `P fs s` ("the fragments `fs` stand for the text `s`") is kept by everything a document without code is put together from;
`dbg`: the separators of debug mode are among the parts -/
structure FragInv (dbg : Bool) (P : List Frag → String → Prop) : Prop where
  nil : P [] ""
  append {a b : List Frag} {s t : String} : P a s → P b t → P (a ++ b) (s ++ t)
  text (s : String) : P [.text s] s
  lbrace : P [lbraceAct] "{"
  sep : dbg = true → P debugSep ""

namespace FragInv
variable {dbg : Bool} {P : List Frag → String → Prop} (I : FragInv dbg P)
include I

theorem sepIf {b : Bool} (h : b = true → dbg = true) : P (sepIf b) "" := by
  cases b
  · exact I.nil
  · exact I.sep (h rfl)

theorem quote (s : String) : P (quoteChars s.toList []) s := by
  have h := quote_output s.toList
  unfold quoteChars
  generalize quoteL s.toList [] = ps at h ⊢
  obtain rfl : s = String.ofList (outputOf ps) := by simp [h]
  clear h
  induction ps with
  | nil => exact I.nil
  | cons p rest ih =>
    cases p with
    | none => simpa [outputOf, String.ofList_append] using I.append I.lbrace ih
    | some cs => simpa [outputOf, String.ofList_append] using I.append (I.text (String.ofList cs)) ih

theorem tag (name : String) (inl kidsInl : Bool) {sub : List Frag} {s : String} (h : P sub s) :
    P (tagFrags dbg name inl kidsInl sub)
      (if voidTags.contains name then "<" ++ name ++ ">" else "<" ++ name ++ ">" ++ s ++ "</" ++ name ++ ">") := by
  have ho : P [.text ("<" ++ name), .text ">"] ("<" ++ name ++ ">") := I.append (I.text _) (I.text _)
  have hs {b : Bool} : P (Tpl.sepIf (b && dbg)) "" := I.sepIf (by simp)
  unfold tagFrags
  split
  · simpa using I.append ho hs
  · simpa [String.append_assoc] using I.append (I.append (I.append (I.append (I.append ho hs) h) hs) (I.text _)) hs

theorem mapM {g : Node → CM (List Frag)} {R : Node → String → Prop} (h : ∀ n out, R n out → ∃ fs, g n = .ok fs ∧ P fs out) :
    ∀ (ns : List Node) (outs : List String), Rel2 R ns outs → ∃ fss, ns.mapM g = .ok fss ∧ P fss.flatten (cat outs)
  | [], [], _ => ⟨[], rfl, I.nil⟩
  | n :: ns, o :: os, hr => by
    obtain ⟨fs, h1, h2⟩ := h n o hr.1
    obtain ⟨fss, i1, i2⟩ := mapM h ns os hr.2
    exact ⟨fs :: fss, by rw [List.mapM_cons, h1, i1]; rfl, I.append h2 i2⟩
  | [], _ :: _, hr | _ :: _, [], hr => hr.elim

end FragInv

theorem collect_nil (f : Nat) : collectMixinDefsF f [] = [] := by cases f <;> rfl

theorem collect_cons (f : Nat) (n : Node) (rest : List Node) :
    collectMixinDefsF (f + 1) (n :: rest) = collectMixinDefsF (f + 1) [n] ++ collectMixinDefsF f rest := by
  show _ = _ ++ collectMixinDefsF f [] ++ _
  rw [collect_nil, List.append_nil]; rfl

section
variable (f : Nat)

theorem collect_text (s : String) : collectMixinDefsF (f + 1) [.text s] = [] := by
  unfold collectMixinDefsF; exact collect_nil f

theorem collect_doctype (v : String) : collectMixinDefsF (f + 1) [.doctype v] = [] := by
  unfold collectMixinDefsF; exact collect_nil f

theorem collect_codeBuf (e : JS.Expr) (esc inl : Bool) : collectMixinDefsF (f + 1) [.codeBuf e esc inl] = [] := by
  unfold collectMixinDefsF; exact collect_nil f

theorem collect_tag (name : String) (inl : Bool) (attrs : List Attr) (ab : List String) (kids : List Node) :
    collectMixinDefsF (f + 1) [.tag name inl attrs ab kids] = collectMixinDefsF f kids := by
  show _ ++ collectMixinDefsF f [] = _
  rw [collect_nil]; exact List.append_nil _

theorem collect_cond (t : JS.Expr) (thn els : List Node) :
    collectMixinDefsF (f + 1) [.cond t thn (some els)] = collectMixinDefsF f thn ++ collectMixinDefsF f els := by
  show _ ++ collectMixinDefsF f [] = _
  rw [collect_nil]; exact List.append_nil _

theorem collect_each (v k : String) (o : JS.Expr) (kids : List Node) :
    collectMixinDefsF (f + 1) [.each v k o kids] = collectMixinDefsF f kids := by
  show _ ++ collectMixinDefsF f [] = _
  rw [collect_nil]; exact List.append_nil _

end

def NoMixins (ns : List Node) : Prop := ∀ fuel, collectMixinDefsF fuel ns = []

theorem NoMixins.nil : NoMixins [] := collect_nil

theorem NoMixins.cons {n : Node} {rest : List Node} (hn : ∀ fuel, collectMixinDefsF (fuel + 1) [n] = []) (hr : NoMixins rest) :
    NoMixins (n :: rest) := fun fuel => by
  cases fuel with
  | zero => rfl
  | succ f => rw [collect_cons, hn f, hr f]; rfl

theorem NoMixins.rel2 {R : Node → String → Prop} (h : ∀ n out, R n out → ∀ fuel, collectMixinDefsF (fuel + 1) [n] = []) :
    ∀ (ns : List Node) (outs : List String), Rel2 R ns outs → NoMixins ns
  | [], [], _ => .nil
  | n :: ns, o :: os, hr => .cons (h n o hr.1) (NoMixins.rel2 h ns os hr.2)
  | [], _ :: _, hr | _ :: _, [], hr => hr.elim

theorem parseBody_of {fs : List Frag} {ns : List TNode} (h : Nests (applyTrims (mergeTexts fs)) ns .eof []) :
    parseBody fs = .ok ns := by
  simp [parseBody, h.parseList]

theorem parseBody_flat {fs : List Frag} (h : ∀ f ∈ fs, f.flat = true) :
    parseBody fs = .ok (flatNodes (applyTrims (mergeTexts fs))) := by
  refine parseBody_of ?_
  simpa using Nests.nil.flat (all_applyTrims (fun _ => rfl) (all_mergeTexts (fun _ => rfl) h))

/-- without mixin definitions and blocks the document is its main template, parsed from its fragments -/
theorem compileDoc_simple {env : CEnv} {doc : List Node} {frags : List Frag} {ns : List TNode}
    (hc : compileNodes env doc = .ok frags) (hm : NoMixins doc) (hb : ∀ f ∈ frags, ∀ m b, f ≠ .blockDef m b)
    (hp : parseBody frags = .ok ns) : compileDoc env doc = .ok { main := ns, defs := [] } := by
  have hm : collectMixinDefs doc = [] := hm _
  have hh : hoistBlocks frags 0 = (frags, [], 0) := hoist_noBlockDef _ hb 0
  rw [compileDoc, hc, hm]
  simp only [hh, hp, except_ok_bind, except_pure, List.foldl_nil, List.mapM_nil, List.isEmpty_nil, Bool.not_true, Bool.or_self,
    Bool.false_eq_true, ↓reduceIte, List.append_nil]

theorem initState_out (data : Lean.Json) : (initState data).out = "" := by
  unfold initState; split <;> rfl

/-- the compiler environment of `renderModel` without extra functions -/
abbrev renderEnv (debug : Bool) : CEnv :=
  { funcs := engineFuncs ++ [], parserFuncs := engineFuncs ++ [] ++ builtinNames, debug := debug }

theorem renderModel_of_walk {doc : List Node} {data : Lean.Json} {debug : Bool} {c : Compiled} {s : String}
    (hc : compileDoc (renderEnv debug) doc = .ok c)
    (hw : walkList 100000000 { defs := c.defs } c.main (initState data) = .ok ((), (initState data).put s)) :
    renderModel doc data [] debug = okOut s := by
  simp only [renderModel, hc, StateT.run, hw, St.put, initState_out, String.empty_append]

/-- **a flat document renders what its fragments print.** `100000000` is the executor fuel of `renderModel`; one unit per fragment
and `k` for the last action are needed. -/
theorem render_flat {doc : List Node} {data : Lean.Json} {debug : Bool} {frags : List Frag} {k : Nat} {S : St → Prop} {s : String}
    (hc : compileNodes (renderEnv debug) doc = .ok frags) (hm : NoMixins doc) (hflat : ∀ f ∈ frags, f.flat = true)
    (hp : Prints { defs := [] } k S (applyTrims (mergeTexts frags)) s) (hS : ∀ st u, S st → S (st.put u)) (hst : S (initState data))
    (hlen : frags.length + k < 100000000) : renderModel doc data [] debug = okOut s := by
  have hd := compileDoc_simple hc hm (fun f hf m b e => by have := hflat f hf; subst e; cases this) (parseBody_flat hflat)
  refine renderModel_of_walk hd (hp.walk hS hst ?_)
  rw [applyTrims_length]
  exact Nat.lt_of_le_of_lt (Nat.add_le_add_right (mergeTexts_length_le frags) k) hlen

theorem render_flat_noTrim {doc : List Node} {data : Lean.Json} {debug : Bool} {frags : List Frag} {k : Nat} {S : St → Prop}
    {s : String} (hc : compileNodes (renderEnv debug) doc = .ok frags) (hm : NoMixins doc) (hn : ∀ f ∈ frags, f.noTrim = true)
    (hp : Prints { defs := [] } k S frags s) (hS : ∀ st u, S st → S (st.put u)) (hst : S (initState data))
    (hlen : frags.length + k < 100000000) : renderModel doc data [] debug = okOut s :=
  render_flat hc hm hp.flat (by rw [applyTrims_noTrim (all_mergeTexts (fun _ => rfl) hn)]; exact hp.merge) hS hst hlen

end Pug.Tpl
