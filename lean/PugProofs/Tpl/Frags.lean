import PugModel.Tpl.Compile
import PugProofs.Tpl.Exec
/-!
The fragment-level stages of the transpiler: equations of `mergeTexts` and `applyTrims`; the nesting of flat stretches, `if` and
`range` as a relation (`Nests`) that `parseList` realises; `hoistBlocksF` without blocks; and what a flat list - texts and print
actions - prints once nested and executed (`Prints`).
-/
namespace Pug.Tpl

theorem mergeTexts_cons {f : Frag} {X : List Frag} (h1 : ∀ a b rest, f = .text a → X ≠ .text b :: rest)
    (h2 : ∀ m b, f ≠ .blockDef m b) : mergeTexts (f :: X) = f :: mergeTexts X := by
  rw [mergeTexts] <;> assumption

theorem mergeTexts_act (lt rt : Bool) (a : Act) (R : List Frag) :
    mergeTexts (.act lt rt a :: R) = .act lt rt a :: mergeTexts R :=
  mergeTexts_cons (by simp) (by simp)

/-- merging never looks across an action -/
theorem mergeTexts_append_act (P : List Frag) (lt rt : Bool) (a : Act) (R : List Frag) :
    mergeTexts (P ++ .act lt rt a :: R) = mergeTexts P ++ .act lt rt a :: mergeTexts R := by
  fun_induction mergeTexts P with
  | case1 a b rest ih => rw [List.cons_append, List.cons_append, mergeTexts, ← List.cons_append, ih]
  | case2 m b rest ih => rw [List.cons_append, mergeTexts, ih]
  | case3 f rest h1 h2 ih =>
    rw [List.cons_append, mergeTexts_cons _ h2, ih, List.cons_append]
    intro a b r hf
    cases rest with
    | nil => simp
    | cons g rest' => intro h; cases h; exact h1 a b _ hf rfl
  | case4 => rw [List.nil_append, mergeTexts_act]; rfl

theorem mergeTexts_length_le (fs : List Frag) : (mergeTexts fs).length ≤ fs.length := by
  fun_induction mergeTexts fs with
  | case1 _ _ _ ih | case2 _ _ _ ih => exact Nat.le_succ_of_le ih
  | case3 _ _ _ _ ih => exact Nat.succ_le_succ ih
  | case4 => exact Nat.le_refl _

theorem all_mergeTexts {p : Frag → Bool} (ht : ∀ s, p (.text s) = true) {fs : List Frag} (h : ∀ f ∈ fs, p f = true) :
    ∀ f ∈ mergeTexts fs, p f = true := by
  fun_induction mergeTexts fs
  case case4 => exact h
  all_goals simp only [List.mem_cons, forall_eq_or_imp] at h ⊢
  case case1 ih => exact ih (List.forall_mem_cons.mpr ⟨ht _, h.2.2⟩)
  case case2 ih => exact ih h.2
  case case3 ih => exact ⟨h.1, ih h.2⟩

theorem applyTrims_length (fs : List Frag) : (applyTrims fs).length = fs.length := by
  fun_induction applyTrims fs <;> simp only [List.length_cons, *]

theorem all_applyTrims {p : Frag → Bool} (ht : ∀ s, p (.text s) = true) {fs : List Frag} (h : ∀ f ∈ fs, p f = true) :
    ∀ f ∈ applyTrims fs, p f = true := by
  fun_induction applyTrims fs
  case case4 => exact h
  all_goals simp only [List.mem_cons, forall_eq_or_imp] at h ⊢
  case case1 ih => exact ⟨by split <;> exact ht _, ih (List.forall_mem_cons.mpr h.2)⟩
  case case2 ih => exact ⟨h.1, ih (List.forall_mem_cons.mpr ⟨ht _, h.2.2⟩)⟩
  case case3 ih => exact ⟨h.1, ih h.2⟩

end Pug.Tpl

/-- what a right-trim marker does to the list behind it (in the namespace of the C02 theorems, whose statements mention it) -/
def Pug.Props.C02D.trimHead : List Pug.Tpl.Frag → List Pug.Tpl.Frag
  | .text t :: r => .text (Pug.Tpl.trimLeftWs t) :: r
  | l => l

namespace Pug.Tpl
open Pug.Props.C02D (trimHead)

theorem applyTrims_rtrim (lt : Bool) (a : Act) (L : List Frag) :
    applyTrims (.act lt true a :: L) = .act lt true a :: applyTrims (trimHead L) := by
  cases L with
  | nil => rw [applyTrims] <;> simp [trimHead]
  | cons f r =>
    cases f with
    | text t => rw [applyTrims]; rfl
    | _ => rw [applyTrims] <;> simp [trimHead]

theorem applyTrims_noRtrim (lt : Bool) (a : Act) (L : List Frag) :
    applyTrims (.act lt false a :: L) = .act lt false a :: applyTrims L := by
  rw [applyTrims] <;> simp

theorem applyTrims_text_act (t : String) (lt rt : Bool) (a : Act) (L : List Frag) :
    applyTrims (.text t :: .act lt rt a :: L) = .text (if lt then trimRightWs t else t) :: applyTrims (.act lt rt a :: L) := by
  rw [applyTrims]; split <;> rfl

theorem applyTrims_text (t : String) {L : List Frag} (h : ∀ rt a R', L ≠ .act true rt a :: R') :
    applyTrims (.text t :: L) = .text t :: applyTrims L := by
  cases L with
  | nil => rw [applyTrims, applyTrims] <;> simp
  | cons g r =>
    cases g with
    | act lt rt a =>
      cases lt with
      | true => exact absurd rfl (h rt a r)
      | false => exact applyTrims_text_act ..
    | _ => rw [applyTrims] <;> simp

/-- no trim marker on the fragment: `applyTrims` leaves a stretch of such fragments as it is -/
def Frag.noTrim : Frag → Bool
  | .act lt rt _ => !lt && !rt
  | _ => true

theorem applyTrims_noTrim_append {M : List Frag} (hM : ∀ f ∈ M, f.noTrim = true) (R : List Frag)
    (hR : ∀ rt a R', R ≠ .act true rt a :: R') : applyTrims (M ++ R) = M ++ applyTrims R := by
  induction M with
  | nil => rfl
  | cons f M ih =>
    rw [List.forall_mem_cons] at hM
    rw [List.cons_append, List.cons_append, ← ih hM.2]
    cases f with
    | blockDef m b => rw [applyTrims] <;> simp
    | act lt rt a => cases lt <;> cases rt <;> first | exact applyTrims_noRtrim .. | cases hM.1
    | text t =>
      refine applyTrims_text t fun rt a R' h => ?_
      cases M with
      | nil => exact hR rt a R' h
      -- the next fragment is in `M`, so it does not trim, but by `h` it is a left-trimming action
      | cons g M' => cases List.head_eq_of_cons_eq h ▸ hM.2 g List.mem_cons_self

theorem applyTrims_noTrim {M : List Frag} (hM : ∀ f ∈ M, f.noTrim = true) : applyTrims M = M := by
  simpa [applyTrims] using applyTrims_noTrim_append hM [] (by simp)

/-- a text or a print action: what the template parser turns into one node without nesting -/
def Frag.flat : Frag → Bool
  | .text _ | .act _ _ (.print ..) => true
  | _ => false

/-- the nodes of a flat stretch, as the template parser builds them (an empty text gives no node) -/
def flatNodes : List Frag → List TNode
  | [] => []
  | .text s :: rest => if s.isEmpty then flatNodes rest else .text s :: flatNodes rest
  | .act _ _ (.print t esc) :: rest => .print t esc :: flatNodes rest
  | _ :: rest => flatNodes rest

/-- the nesting the template parser builds, as a relation: the fragments `fs` nest to the nodes `ns` up to the terminator `tm`,
with `r` left behind it -/
inductive Nests : List Frag → List TNode → Term → List Frag → Prop
  | nil : Nests [] [] .eof []
  | end_ {lt rt : Bool} {R : List Frag} : Nests (.act lt rt .end_ :: R) [] .end_ R
  | else_ {lt rt : Bool} {R : List Frag} : Nests (.act lt rt .else_ :: R) [] .else_ R
  | text (s : String) {R r : List Frag} {ns : List TNode} {tm : Term} :
      Nests R ns tm r → Nests (.text s :: R) (if s.isEmpty then ns else .text s :: ns) tm r
  | print (lt rt : Bool) (e : TExpr) (esc : Bool) {R r : List Frag} {ns : List TNode} {tm : Term} :
      Nests R ns tm r → Nests (.act lt rt (.print e esc) :: R) (.print e esc :: ns) tm r
  | ite {lt rt : Bool} {c : TExpr} {L X Y r : List Frag} {thn els ns : List TNode} {tm : Term} :
      Nests L thn .else_ X → Nests X els .end_ Y → Nests Y ns tm r →
      Nests (.act lt rt (.ifStart c) :: L) (.ite c thn els :: ns) tm r
  | range {lt rt : Bool} {decl : List String} {e : TExpr} {L Y r : List Frag} {body ns : List TNode} {tm : Term} :
      Nests L body .end_ Y → Nests Y ns tm r → Nests (.act lt rt (.range decl e) :: L) (.range decl e body :: ns) tm r

namespace Nests
variable {fs R r : List Frag} {ns : List TNode} {tm : Term}

theorem flat {A : List Frag} (hA : ∀ f ∈ A, f.flat = true) (h : Nests R ns tm r) : Nests (A ++ R) (flatNodes A ++ ns) tm r := by
  induction A with
  | nil => exact h
  | cons f rest ih =>
    have ih := ih fun g hg => hA g (List.mem_cons_of_mem _ hg)
    have hf := hA f List.mem_cons_self
    cases f with
    | text s => by_cases hs : s.isEmpty = true <;> simpa [flatNodes, hs] using ih.text s
    | blockDef m b => cases hf
    | act lt rt x =>
      cases x with
      | print t esc => exact ih.print lt rt t esc
      | _ => cases hf

/-- the parser realises the relation whenever it has more than two units of fuel per fragment: `parseListF` spends one on every
fragment and `parseIfF` one more on an `if`, and what is left behind a terminator is no longer than what the parser started from -/
theorem sound (h : Nests fs ns tm r) : r.length ≤ fs.length ∧ ∀ f, 2 * fs.length < f → parseListF f fs = .ok (ns, tm, r) := by
  induction h with
  | nil | end_ | else_ =>
    refine ⟨by simp, fun f hf => ?_⟩
    obtain ⟨k, rfl⟩ := Nat.exists_eq_add_of_lt hf
    simp [parseListF]
  | text _ _ ih | print _ _ _ _ _ ih =>
    refine ⟨Nat.le_succ_of_le ih.1, fun f hf => ?_⟩
    obtain ⟨k, rfl⟩ := Nat.exists_eq_add_one_of_ne_zero (Nat.ne_zero_of_lt hf)
    rw [List.length_cons, Nat.mul_succ] at hf
    rw [parseListF, ih.2 k (Nat.lt_of_succ_lt (Nat.lt_of_succ_lt_succ hf))]
    rfl
  | ite _ _ _ ih1 ih2 ih3 =>
    refine ⟨Nat.le_succ_of_le (Nat.le_trans ih3.1 (Nat.le_trans ih2.1 ih1.1)), fun f hf => ?_⟩
    rw [List.length_cons, Nat.mul_succ] at hf
    obtain ⟨k, rfl⟩ := Nat.exists_eq_add_of_le' (Nat.le_trans (Nat.le_add_left 2 _) (Nat.le_of_lt hf))
    -- the three parts fit into `k`: the first by `hf`, the others since they are no longer
    have h1 : 2 * _ < k := Nat.lt_of_add_lt_add_right hf
    have h2 := Nat.lt_of_le_of_lt (Nat.mul_le_mul_left 2 ih1.1) h1
    have h3 := Nat.lt_of_le_of_lt (Nat.mul_le_mul_left 2 ih2.1) h2
    rw [parseListF, parseIfF]
    simp only [ih1.2 k h1, ih2.2 k h2, ih3.2 (k + 1) (Nat.lt_succ_of_lt h3), except_ok_bind, except_pure]
  | range _ _ ih1 ih3 =>
    refine ⟨Nat.le_succ_of_le (Nat.le_trans ih3.1 ih1.1), fun f hf => ?_⟩
    obtain ⟨k, rfl⟩ := Nat.exists_eq_add_one_of_ne_zero (Nat.ne_zero_of_lt hf)
    rw [List.length_cons, Nat.mul_succ] at hf
    have h1 : 2 * _ < k := Nat.lt_of_succ_lt (Nat.lt_of_succ_lt_succ hf)
    have h3 := Nat.lt_of_le_of_lt (Nat.mul_le_mul_left 2 ih1.1) h1
    rw [parseListF]
    simp only [ih1.2 k h1, ih3.2 k h3, except_ok_bind, except_pure]

theorem parseList (h : Nests fs ns tm r) : parseList fs = .ok (ns, tm, r) := h.sound.2 _ (by omega)

end Nests

theorem hoist_noBlockDef (fuel : Nat) {fs : List Frag} (h : ∀ f ∈ fs, ∀ m b, f ≠ .blockDef m b) (k : Nat) :
    hoistBlocksF fuel fs k = (fs, [], k) := by
  induction fuel generalizing fs with
  | zero => rfl
  | succ fuel ih =>
    cases fs with
    | nil => rfl
    | cons f rest =>
      have hrest := ih fun g hg => h g (List.mem_cons_of_mem _ hg)
      cases f with
      | blockDef m b => exact absurd rfl (h _ List.mem_cons_self m b)
      | _ => simp [hoistBlocksF, hrest]

/-- `Prints env k S fs s`: the list `fs` is flat and prints `s` - each of its actions, executed with fuel `k` or more from any
state in `S`, appends its share of `s` to the output and changes nothing else. -/
inductive Prints (env : Env) (k : Nat) (S : St → Prop) : List Frag → String → Prop
  | nil : Prints env k S [] ""
  | text (t : String) {fs : List Frag} {s : String} : Prints env k S fs s → Prints env k S (.text t :: fs) (t ++ s)
  | act (lt rt : Bool) {e : TExpr} {esc : Bool} {u : String} {fs : List Frag} {s : String} :
      (∀ st, S st → ∀ fuel, k ≤ fuel → walk fuel env (.print e esc) st = .ok ((), st.put u)) →
      Prints env k S fs s → Prints env k S (.act lt rt (.print e esc) :: fs) (u ++ s)

namespace Prints
variable {env : Env} {k : Nat} {S : St → Prop} {fs gs : List Frag} {s t : String}

theorem lit (lt rt : Bool) (u : String) (hk : 2 ≤ k) (h : Prints env k S fs s) :
    Prints env k S (.act lt rt (.print (.lit (.str u)) false) :: fs) (u ++ s) :=
  h.act lt rt fun st _ fuel hf => by
    obtain ⟨f, rfl⟩ := Nat.exists_eq_add_of_le (Nat.le_trans hk hf)
    rw [Nat.add_comm]; exact walk_print_lit f env u st

theorem flat (h : Prints env k S fs s) : ∀ f ∈ fs, f.flat = true := by
  induction h with
  | nil => nofun
  | text _ _ ih | act _ _ _ _ ih => exact List.forall_mem_cons.mpr ⟨rfl, ih⟩

theorem append (h1 : Prints env k S fs s) (h2 : Prints env k S gs t) : Prints env k S (fs ++ gs) (s ++ t) := by
  induction h1 with
  | nil => simpa using h2
  | text a _ ih => simpa [String.append_assoc] using ih.text a
  | act lt rt hw _ ih => simpa [String.append_assoc] using ih.act lt rt hw

theorem merge (h : Prints env k S fs s) : Prints env k S (mergeTexts fs) s := by
  fun_induction mergeTexts fs generalizing s with
  | case1 a b rest ih =>
    cases h with | text _ h => cases h with | text _ h =>
    rw [← String.append_assoc]
    exact ih (h.text (a ++ b))
  | case2 => cases h
  | case3 f rest _ _ ih =>
    cases h with
    | text a h => exact (ih h).text a
    | act lt rt hw h => exact (ih h).act lt rt hw
  | case4 => exact h

/-- `walkList` spends one unit of fuel per node, so the last action still has `k` left -/
theorem walk (h : Prints env k S fs s) (hS : ∀ st u, S st → S (st.put u)) {st : St} (hst : S st) {fuel : Nat}
    (hf : fs.length + k < fuel) : walkList fuel env (flatNodes fs) st = .ok ((), st.put s) := by
  induction h generalizing st fuel with
  | nil =>
    obtain ⟨f, rfl⟩ := Nat.exists_eq_add_of_lt hf
    simp [flatNodes, walkList_nil, St.put]
  | @text a fs s _ ih =>
    obtain ⟨f, rfl⟩ := Nat.exists_eq_add_one_of_ne_zero (Nat.ne_zero_of_lt hf)
    have hf' : fs.length + k < f := Nat.lt_of_succ_lt_succ (by rwa [List.length_cons, Nat.succ_add] at hf)
    by_cases ha : a.isEmpty = true
    · have : a = "" := by simpa [String.isEmpty_iff] using ha
      simpa [flatNodes, ha, this] using ih hst (Nat.lt_succ_of_lt hf')
    · obtain ⟨f, rfl⟩ := Nat.exists_eq_add_one_of_ne_zero (Nat.ne_zero_of_lt hf')
      simp only [flatNodes, ha, Bool.false_eq_true, ↓reduceIte, walkList_cons, bind_ok (walk_text f env a st)]
      simpa [St.put_put] using ih (hS st a hst) hf'
  | @act lt rt e esc u fs s hw _ ih =>
    obtain ⟨f, rfl⟩ := Nat.exists_eq_add_one_of_ne_zero (Nat.ne_zero_of_lt hf)
    have hf' : fs.length + k < f := Nat.lt_of_succ_lt_succ (by rwa [List.length_cons, Nat.succ_add] at hf)
    simp only [flatNodes, walkList_cons, bind_ok (hw st hst f (Nat.le_trans (Nat.le_add_left ..) (Nat.le_of_lt hf')))]
    simpa [St.put_put] using ih (hS st u hst) hf'

end Prints

end Pug.Tpl
