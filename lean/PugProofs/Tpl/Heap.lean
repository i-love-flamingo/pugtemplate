import PugModel.Tpl.Val
/-!
Heap algebra: reading a cell after a write or an allocation, and heaps that only grow (`Ext`): every array and map of the
smaller heap is where it was, with the content it had.
-/
namespace Pug.Tpl

theorem Heap.getArr_setArr_same (h : Heap) (a : Nat) (l : List Val) (ha : a < h.arrs.length) :
    (h.setArr a l).getArr a = l := by
  simp [Heap.getArr, Heap.setArr, List.getD, ha]

theorem Heap.getArr_setArr_other (h : Heap) (a b : Nat) (l : List Val) (hab : b ≠ a) :
    (h.setArr a l).getArr b = h.getArr b := by
  simp [Heap.getArr, Heap.setArr, List.getD, Ne.symm hab]

theorem Heap.getArr_allocArr_new (h : Heap) (l : List Val) : (h.allocArr l).1.getArr h.arrs.length = l := by
  simp [Heap.allocArr, Heap.getArr, List.getD]

theorem Heap.getMap_allocMap_new (h : Heap) (m : MapObj) : (h.allocMap m).1.getMap h.maps.length = m := by
  simp [Heap.allocMap, Heap.getMap, List.getD]

end Pug.Tpl

namespace Pug.Props.C11P
open Pug.Tpl

/-- `h'` is `h` with arrays and maps appended (in the namespace of the C11 path theorems whose statements mention it) -/
def Ext (h h' : Heap) : Prop := ∃ aa am, h'.arrs = h.arrs ++ aa ∧ h'.maps = h.maps ++ am

theorem Ext.refl (h : Heap) : Ext h h := ⟨[], [], by simp, by simp⟩

theorem Ext.trans {a b c : Heap} (h1 : Ext a b) (h2 : Ext b c) : Ext a c := by
  obtain ⟨aa, am, e1, e2⟩ := h1
  obtain ⟨ba, bm, f1, f2⟩ := h2
  exact ⟨aa ++ ba, am ++ bm, by simp [f1, e1], by simp [f2, e2]⟩

theorem ext_allocMap (h : Heap) (m : MapObj) : Ext h (h.allocMap m).1 := ⟨[], [m], by simp [Heap.allocMap], rfl⟩
theorem ext_allocArr (h : Heap) (l : List Val) : Ext h (h.allocArr l).1 := ⟨[l], [], rfl, by simp [Heap.allocArr]⟩

theorem Ext.getArr {h h' : Heap} (e : Ext h h') (a : Nat) (ha : a < h.arrs.length) : h'.getArr a = h.getArr a := by
  obtain ⟨_, _, e1, _⟩ := e
  simp [Heap.getArr, e1, List.getD, List.getElem?_append_left ha]

theorem Ext.getMap {h h' : Heap} (e : Ext h h') (a : Nat) (ha : a < h.maps.length) : h'.getMap a = h.getMap a := by
  obtain ⟨_, _, _, e2⟩ := e
  simp [Heap.getMap, e2, List.getD, List.getElem?_append_left ha]

end Pug.Props.C11P
