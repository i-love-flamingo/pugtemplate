import PugModel.Tpl.Exec
/-!
`pure` and `>>=` of `Except` (the transpiler's monad `CM`); the executor's monad `M = StateT St (Except Err)` run on a state, one
equation per primitive; and the equations of the executor
(`walk`, `walkList`, `evalExpr`, `printVal`) on the node forms the properties speak of, stated once. Proofs elsewhere rewrite with
these instead of unfolding the binds of `StateT` / `Except`. They are proved by `rw`, which rewrites the outermost bind only; `simp` would first
normalise every branch of the executor's `match`.
-/
namespace Pug.Tpl

section Except
variable {ε α β : Type}

@[simp] theorem except_pure (a : α) : (pure a : Except ε α) = .ok a := rfl
@[simp] theorem except_ok_bind (a : α) (f : α → Except ε β) : (Except.ok a >>= f) = f a := rfl
@[simp] theorem except_error_bind (e : ε) (f : α → Except ε β) : (Except.error e >>= f) = .error e := rfl

theorem except_bind_eq_ok {x : Except ε α} {f : α → Except ε β} {b : β} (h : (x >>= f) = .ok b) :
    ∃ a, x = .ok a ∧ f a = .ok b := by
  cases x with
  | error e => cases h
  | ok a => exact ⟨a, rfl, h⟩

theorem mapM_cons_ok {f : α → Except ε β} {a : α} {l : List α} {r : List β} (h : (a :: l).mapM f = .ok r) :
    ∃ b bs, f a = .ok b ∧ l.mapM f = .ok bs ∧ r = b :: bs := by
  rw [List.mapM_cons] at h
  obtain ⟨b, ha, h⟩ := except_bind_eq_ok h
  obtain ⟨bs, hl, h⟩ := except_bind_eq_ok h
  exact ⟨b, bs, ha, hl, (Except.ok.inj h).symm⟩

theorem mapM_ok_length {f : α → Except ε β} : ∀ {l : List α} {r : List β}, l.mapM f = .ok r → r.length = l.length
  | [], _, h => by cases h; rfl
  | a :: l, _, h => by
    obtain ⟨b, bs, _, hl, rfl⟩ := mapM_cons_ok h
    rw [List.length_cons, List.length_cons, mapM_ok_length hl]

end Except

section Monad
variable {α β : Type} (st : St)

@[simp] theorem pure_run (a : α) : (pure a : M α) st = .ok (a, st) := rfl

@[simp] theorem bind_run (m : M α) (f : α → M β) :
    (m >>= f) st = match m st with
      | .ok (a, s) => f a s
      | .error e => .error e := by
  simp only [bind, StateT.bind, Except.bind]
  cases m st <;> rfl

theorem bind_ok {x : M α} {f : α → M β} {st st' : St} {a : α} (h : x st = .ok (a, st')) : (x >>= f) st = f a st' := by
  rw [bind_run, h]

@[simp] theorem map_run (g : α → β) (m : M α) :
    (g <$> m) st = match m st with
      | .ok (a, s) => .ok (g a, s)
      | .error e => .error e := by
  simp only [Functor.map, StateT.map, bind, Except.bind, pure, Except.pure]
  cases m st <;> rfl

@[simp] theorem get_run : (get : M St) st = .ok (st, st) := rfl
@[simp] theorem set_run (s : St) : (set s : M PUnit) st = .ok (⟨⟩, s) := rfl
@[simp] theorem modify_run (f : St → St) : (modify f : M PUnit) st = .ok (⟨⟩, f st) := rfl
@[simp] theorem getHeap_run : getHeap st = .ok (st.heap, st) := rfl
@[simp] theorem setHeap_run (h : Heap) : setHeap h st = .ok ((), { st with heap := h }) := rfl
@[simp] theorem setVar_run (x : String) (v : Val) : setVar x v st = .ok ((), { st with vars := setVarIn st.vars x v }) := rfl
@[simp] theorem emit_run (t : String) : emit t st = .ok ((), { st with out := st.out ++ t }) := rfl
@[simp] theorem throwE_run (e : Err) : (throwE e : M α) st = .error e := rfl
@[simp] theorem execErr_run (m : String) : (execErr m : M α) st = .error (.exec m) := rfl
@[simp] theorem domainErr_run (m : String) : (domainErr m : M α) st = .error (.domain m) := rfl
@[simp] theorem ofOpt_some (a : α) (w : String) : ofOpt (some a) w st = .ok (a, st) := rfl
@[simp] theorem ofOpt_none (w : String) : (ofOpt none w : M α) st = .error (.domain w) := rfl

@[simp] theorem allocArr_run (items : List Val) :
    allocArr items st = .ok (.arr st.heap.arrs.length, { st with heap := (st.heap.allocArr items).1 }) := rfl
@[simp] theorem allocMap_run (m : MapObj) :
    allocMap m st = .ok (.map st.heap.maps.length, { st with heap := (st.heap.allocMap m).1 }) := rfl

end Monad

/-- `s` printed: the executor's equations and `Prints` (Tpl/Frags.lean) state what an action does to the state with it -/
def St.put (st : St) (s : String) : St := { st with out := st.out ++ s }

theorem St.put_put (st : St) (s t : String) : (st.put s).put t = st.put (s ++ t) := by
  simp [St.put, String.append_assoc]

theorem walkList_nil (f : Nat) (env : Env) (st : St) : walkList (f + 1) env [] st = .ok ((), st) := by
  rw [walkList]; rfl

theorem walkList_cons (f : Nat) (env : Env) (n : TNode) (ns : List TNode) :
    walkList (f + 1) env (n :: ns) = (walk f env n >>= fun _ => walkList f env ns) := by
  rw [walkList]

theorem walkList_singleton (f : Nat) (env : Env) (n : TNode) (st : St) :
    walkList (f + 2) env [n] st = walk (f + 1) env n st := by
  rw [walkList_cons, bind_run]
  cases walk (f + 1) env n st with
  | error e => rfl
  | ok r => exact walkList_nil ..

theorem walk_text (f : Nat) (env : Env) (s : String) (st : St) : walk (f + 1) env (.text s) st = .ok ((), st.put s) := by
  rw [walk]; rfl

theorem walk_print {fuel : Nat} {e : TExpr} {st st' : St} {v : Val} (env : Env) (esc : Bool)
    (h : evalExpr fuel e st = .ok (v, st')) : walk (fuel + 1) env (.print e esc) st = printVal v esc st' := by
  rw [walk, bind_ok h]

theorem evalExpr_lit (f : Nat) (v : Val) (st : St) : evalExpr (f + 1) (.lit v) st = .ok (v, st) := by
  rw [evalExpr]; rfl

theorem evalExpr_var {x : String} {st : St} {w : Val} (f : Nat) (h : lookupVar st.vars ("$" ++ x) = w) :
    evalExpr (f + 1) (.var x) st = .ok (w, st) := by
  rw [evalExpr, ← h]; rfl

theorem printVal_invalid (st : St) : printVal .invalid true st = .ok ((), st) := rfl

/-- a value that `fmt.Sprint` can print: its text, through the escaper if asked for -/
theorem printVal_of_sprint {v : Val} {s : String} (st : St) (hv : v ≠ .invalid) (hs : sprint st.heap v = some s) (esc : Bool) :
    printVal v esc st = .ok ((), st.put (if esc then pugHtmlEscape s else s)) := by
  rw [printVal, bind_run, getHeap_run]
  -- `simp` takes the second clause of the match on `v`: its side condition `v ≠ .invalid` is `hv`, found in the context
  cases esc <;> simp only [Bool.false_eq_true, if_false, if_true] <;> rw [bind_run, hs] <;> rfl

theorem printVal_string {v : Val} {s : String} (hv : v = .str s ∨ v = .S s) (esc : Bool) (st : St) :
    printVal v esc st = .ok ((), st.put (if esc then pugHtmlEscape s else s)) := by
  rcases hv with rfl | rfl <;> exact printVal_of_sprint st (by simp) (by simp [sprint, objStr, strFuel]) esc

theorem printVal_nil (st : St) : printVal .nil true st = .ok ((), st) := by
  rw [printVal_of_sprint st (by simp) (s := "") (by simp [sprint, objStr, strFuel])]
  simp [St.put, show pugHtmlEscape "" = "" by decide]

theorem walk_print_lit (f : Nat) (env : Env) (u : String) (st : St) :
    walk (f + 2) env (.print (.lit (.str u)) false) st = .ok ((), st.put u) :=
  (walk_print env false (evalExpr_lit f _ st)).trans (printVal_string (.inl rfl) false st)

section field
variable {fuel : Nat} {recv : TExpr} {st st' : St}

theorem evalExpr_field_invalid (name : String) (args : List TExpr) (h : evalExpr fuel recv st = .ok (.invalid, st')) :
    evalExpr (fuel + 1) (.field recv name args) st = .ok (.invalid, st') := by
  rw [evalExpr, bind_run, h]; rfl

theorem evalExpr_field_nil (name : String) (h : evalExpr fuel recv st = .ok (.nil, st')) :
    evalExpr (fuel + 1) (.field recv name []) st = .ok (.nil, st') := by
  rw [evalExpr, bind_run, h]; rfl

theorem evalExpr_field_map {a : Nat} {name : String} (hn : name ≠ "__assign") (h : evalExpr fuel recv st = .ok (.map a, st')) :
    evalExpr (fuel + 1) (.field recv name []) st = .ok (mapMember (st'.heap.getMap a) name, st') := by
  rw [evalExpr, bind_run, h]
  simp only [beq_iff_eq, hn, if_false]; rfl

end field

end Pug.Tpl
