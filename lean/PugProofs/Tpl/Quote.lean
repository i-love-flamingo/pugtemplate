import PugModel.Tpl.Quote
/-! The two clauses of the quoting `quoteL` (model of `quoteDelims`) as equations, and: what the quoted pieces print is the text. -/
namespace Pug.Tpl

/-- does the quoting turn this `{` into the action? (it is followed by another `{`, or ends the text) -/
def braceAct (c : Char) (rest : List Char) : Bool := c == '{' && rest.head?.all (· == '{')

theorem quoteL_act {c : Char} {rest : List Char} (h : braceAct c rest = true) (cur : List Char) :
    quoteL (c :: rest) cur = flush cur ++ [none] ++ quoteL rest [] := by
  cases rest with
  | nil => obtain rfl : c = '{' := by simpa [braceAct] using h
           simp [quoteL]
  | cons d r => obtain ⟨rfl, rfl⟩ : c = '{' ∧ d = '{' := by simpa [braceAct] using h
                simp [quoteL]

theorem quoteL_keep {c : Char} {rest : List Char} (h : braceAct c rest = false) (cur : List Char) :
    quoteL (c :: rest) cur = quoteL rest (c :: cur) := by
  conv => lhs; unfold quoteL
  split
  · rename_i hc; subst hc
    cases rest with
    | nil => simp [braceAct] at h
    | cons d r => have : d ≠ '{' := by simpa [braceAct] using h
                  simp [this]
  · rfl

theorem braceAct_false {c : Char} {rest : List Char} (h : braceAct c rest = false) : c ≠ '{' ∨ ∃ d r, rest = d :: r ∧ d ≠ '{' := by
  cases rest with
  | nil => exact .inl (by simpa [braceAct] using h)
  | cons d r => by_cases hc : c = '{'
                · exact .inr ⟨d, r, rfl, by simpa [braceAct, hc] using h⟩
                · exact .inl hc

/-! ## the quoting prints the text -/

@[simp] theorem flush_nil : flush [] = [] := by simp [flush]

theorem outputOf_append (a b : List Piece) : outputOf (a ++ b) = outputOf a ++ outputOf b := by
  induction a with
  | nil => rfl
  | cons p rest ih => cases p <;> simp [outputOf, ih]

theorem outputOf_flush (cur : List Char) : outputOf (flush cur) = cur.reverse := by
  cases cur <;> simp [flush, outputOf]

theorem quote_output_gen (t cur : List Char) : outputOf (quoteL t cur) = cur.reverse ++ t := by
  induction t generalizing cur with
  | nil => simp [quoteL, outputOf_flush]
  | cons c rest ih =>
    cases h : braceAct c rest
    · rw [quoteL_keep h, ih]; simp
    · rw [quoteL_act h]
      obtain rfl : c = '{' := by simp [braceAct] at h; exact h.1
      simp [outputOf_append, outputOf_flush, outputOf, ih]

theorem quote_output (t : List Char) : outputOf (quoteL t []) = t := by
  simpa using quote_output_gen t []

end Pug.Tpl
