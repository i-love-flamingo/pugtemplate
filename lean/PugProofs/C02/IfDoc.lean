import PugProofs.C06.Static
import PugProofs.C01.CompileScalar
/-!
A conditional with a scalar test and static branches, through the whole pipeline: transpile -> merge -> trim -> nest -> execute
renders exactly the selected branch (its first text without the leading white space the `if` / `else` marker trims).
-/
namespace Pug.Props.C02D
open Pug Pug.Tpl Pug.JS Pug.Props.C01S Pug.Props.C06S

/-! the markers of a conditional as the transpiler emits them: `{{if t -}}`, `{{else -}}`, `{{end -}}` - no left trim, right trim -/
def ifA (t : TExpr) : Frag := .act false true (.ifStart t)
def elseA : Frag := .act false true .else_
def endA : Frag := .act false true .end_

/-! ## a plain stretch behind a right-trim marker: merged, then its first text left-trimmed -/

theorem trimHead_plain : ∀ {M : List Frag}, Plain M → Plain (trimHead M)
  | .text _ :: _, h => plain_cons.mpr ⟨rfl, (plain_cons.mp h).2⟩
  | [], h | .act .. :: _, h | .blockDef .. :: _, h => h

theorem trimHead_append_act (M : List Frag) (lt rt : Bool) (a : Act) (R : List Frag) :
    trimHead (M ++ .act lt rt a :: R) = trimHead M ++ .act lt rt a :: R := by
  cases M with
  | nil => rfl
  | cons f r => cases f <;> rfl

theorem trimHead_length (M : List Frag) : (trimHead M).length = M.length := by
  cases M with
  | nil => rfl
  | cons f r => cases f <;> exact List.length_cons

/-- the stretch as the template parser sees it (written out in `compileDoc_if` and in the statements of the C02 theorems) -/
abbrev body (A : List Frag) : List Frag := trimHead (mergeTexts A)

theorem body_plain {A : List Frag} (h : Plain A) : Plain (body A) := trimHead_plain (plain_merge h)

theorem body_length (A : List Frag) : (body A).length ≤ A.length := by
  rw [trimHead_length]; exact mergeTexts_length_le A

/-- merging and trimming `marker, stretch, next marker, ...`: the stretch becomes its body, the rest goes on from the next marker -/
theorem trims_stretch (a : Act) {A : List Frag} (hA : Plain A) (rt : Bool) (a' : Act) (R : List Frag) :
    applyTrims (mergeTexts (.act false true a :: (A ++ .act false rt a' :: R))) =
      .act false true a :: (body A ++ applyTrims (mergeTexts (.act false rt a' :: R))) := by
  rw [mergeTexts_act, mergeTexts_append_act, applyTrims_rtrim, trimHead_append_act,
    applyTrims_noTrim_append (plain_noTrim (body_plain hA)) _ (by simp), mergeTexts_act]

theorem nests_stretch {A : List Frag} (hA : Plain A) {R r : List Frag} {ns : List TNode} {tm : Term} (h : Nests R ns tm r) :
    Nests (A ++ R) (nodesOf A ++ ns) tm r :=
  nodesOf_eq hA ▸ h.flat (plain_flat hA)

theorem parseBody_if (t : TExpr) (A B : List Frag) (hA : Plain A) (hB : Plain B) :
    parseBody (ifA t :: (A ++ elseA :: (B ++ [endA]))) = .ok [.ite t (nodesOf (body A)) (nodesOf (body B))] := by
  refine parseBody_of ?_
  rw [ifA, elseA, endA, trims_stretch _ hA, trims_stretch _ hB]
  simpa [mergeTexts, applyTrims] using (nests_stretch (body_plain hA) .else_).ite (nests_stretch (body_plain hB) .end_) .nil

theorem compileNodeF_cond {f : Nat} {env : CEnv} {test : JS.Expr} {t : TExpr} {thn els : List Node} {A B : List Frag}
    (ht : compileExpr env test = .ok (some t)) (hA : compileNodesF f env thn = .ok A) (hB : compileNodesF f env els = .ok B) :
    compileNodeF (f + 1) env (.cond test thn (some els)) = .ok (ifA t :: (A ++ elseA :: (B ++ [endA]))) := by
  rw [compileNodeF]
  simp only [ht, hA, hB, except_ok_bind, except_pure]
  exact congrArg Except.ok (List.append_assoc (_ :: A) ..)

/-- the whole transpiler on `if e` thn `else` els; `99998 = nodeFuel - 2`: `compileNodes` spends one unit on the list, `compileNodeF`
one on the conditional, the branches are compiled with what is left -/
theorem compileDoc_if (env : CEnv) (hd : env.debug = false) (e : SExpr) (hw : WF env e) (hdep : e.depth < 50000)
    (thn els : List Node) (hthn : staticListF 99998 thn = true) (hels : staticListF 99998 els = true) :
    ∃ A B, compileNodesF 99998 env thn = .ok A ∧ Plain A ∧ fragsStr A = serListF 99998 thn ∧
      compileNodesF 99998 env els = .ok B ∧ Plain B ∧ fragsStr B = serListF 99998 els ∧
      compileDoc env [.cond e.toExpr thn (some els)] =
        .ok { main := [.ite (tr e) (nodesOf (trimHead (mergeTexts A))) (nodesOf (trimHead (mergeTexts B)))], defs := [] } := by
  obtain ⟨A, a1, a2, a3⟩ := (compile_static env hd 99998).2 thn hthn
  obtain ⟨B, b1, b2, b3⟩ := (compile_static env hd 99998).2 els hels
  refine ⟨A, B, a1, a2, a3, b1, b2, b3, ?_⟩
  have hc := compileNodeF_cond (compileExpr_scalar env e hw hdep) a1 b1
  refine compileDoc_simple ?_ ?_ ?_ (parseBody_if (tr e) A B a2 b2)
  · exact compileNodes_single hc
  · exact .cons (fun fuel => by
      rw [collect_cond, (collect_static 99998).2 thn hthn fuel, (collect_static 99998).2 els hels fuel]; rfl) .nil
  · -- no block definition among the fragments: the markers are actions, the stretches plain
    exact List.forall_mem_cons.mpr ⟨nofun, List.forall_mem_append.mpr ⟨plain_noBlockDef a2,
      List.forall_mem_cons.mpr ⟨nofun, List.forall_mem_append.mpr ⟨plain_noBlockDef b2, List.forall_mem_singleton.mpr nofun⟩⟩⟩⟩

end Pug.Props.C02D
