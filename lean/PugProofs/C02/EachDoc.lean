import PugProofs.C02.IfDoc
/-!
`each v in xs` with a static body, through transpiler, merge, trim, nesting and executor: the body is printed once per element
of the array the collection variable holds - no more, no fewer - whatever the elements are.
-/
namespace Pug.Props.C02E
open Pug Pug.Tpl Pug.JS Pug.Props.C01S Pug.Props.C06S Pug.Props.C02D

/-- `{{range $v := t -}}` -/
def rangeA (v : String) (t : TExpr) : Frag := .act false true (.range [v] t)

theorem parseBody_each (v : String) (t : TExpr) (A : List Frag) (hA : Plain A) :
    parseBody (rangeA v t :: (A ++ [endA])) = .ok [.range [v] t (nodesOf (body A))] := by
  refine parseBody_of ?_
  rw [rangeA, endA, trims_stretch _ hA]
  simpa [mergeTexts, applyTrims] using (nests_stretch (body_plain hA) .end_).range .nil

/-- the whole transpiler on `each v in x` over a static body -/
theorem compileDoc_each (env : CEnv) (hd : env.debug = false) (x v : String) (hx : env.funcs.contains x = false)
    (kids : List Node) (hk : staticListF 99998 kids = true) :
    ∃ A, compileNodesF 99998 env kids = .ok A ∧ Plain A ∧ fragsStr A = serListF 99998 kids ∧
      compileDoc env [.each v "" (.ident x) kids] =
        .ok { main := [.range [v] (.var x) (nodesOf (trimHead (mergeTexts A)))], defs := [] } := by
  obtain ⟨A, a1, a2, a3⟩ := (compile_static env hd 99998).2 kids hk
  refine ⟨A, a1, a2, a3, ?_⟩
  have hc : compileExpr env (.ident x) = .ok (some (.var x)) :=
    compileExpr_scalar env (.var x) (by simpa [WF] using hx) (by simp [SExpr.depth])
  have hnode : compileNodeF (99998 + 1) env (.each v "" (.ident x) kids) = .ok (rangeA v (.var x) :: (A ++ [endA])) := by
    rw [compileNodeF]
    simp only [hc, a1, except_ok_bind, except_pure]
    rfl
  refine compileDoc_simple (compileNodes_single hnode) ?_ ?_ (parseBody_each v (.var x) A a2)
  · exact .cons (fun fuel => by rw [collect_each]; exact (collect_static 99998).2 kids hk fuel) .nil
  · exact List.forall_mem_cons.mpr ⟨nofun, List.forall_mem_append.mpr ⟨plain_noBlockDef a2, List.forall_mem_singleton.mpr nofun⟩⟩

/-! ## execution: once per element -/

def rep (s : String) : Nat → String
  | 0 => ""
  | n + 1 => s ++ rep s n

/-- the loop over the elements: each iteration binds the variable and prints the body -/
theorem walkItems_static (env : Tpl.Env) (v : String) (M : List Frag) (hM : Plain M) :
    ∀ (items : List (Val × Val)) (fuel : Nat) (st : St), items.length + M.length + 3 < fuel →
      ∃ st', walkItems fuel env [v] (nodesOf M) items st = .ok ((), st') ∧
        st'.out = st.out ++ rep (fragsStr M) items.length ∧ st'.heap = st.heap := by
  intro items
  induction items with
  | nil =>
    intro fuel st hf
    obtain ⟨f, rfl⟩ := Nat.exists_eq_add_one_of_ne_zero (Nat.ne_zero_of_lt hf)
    exact ⟨st, by rw [walkItems]; rfl, by simp [rep], rfl⟩
  | cons it rest ih =>
    intro fuel st hf
    obtain ⟨f, rfl⟩ := Nat.exists_eq_add_one_of_ne_zero (Nat.ne_zero_of_lt hf)
    have hf' : rest.length + M.length + 3 < f := Nat.lt_of_succ_lt_succ (by rwa [List.length_cons, Nat.succ_add, Nat.succ_add] at hf)
    obtain ⟨i, x⟩ := it
    have hb := walk_nodes env M hM { st with vars := setVarIn st.vars ("$" ++ v) x } f
      (Nat.lt_of_le_of_lt (Nat.add_le_add (Nat.le_add_left ..) (Nat.le_succ 2)) hf')
    obtain ⟨st', h1, h2, h3⟩ := ih f { st with vars := setVarIn st.vars ("$" ++ v) x, out := st.out ++ fragsStr M } hf'
    refine ⟨st', ?_, ?_, h3⟩
    · simp only [walkItems, bind_run, setVar_run, hb]
      exact h1
    · simp [h2, rep, String.append_assoc]

end Pug.Props.C02E
