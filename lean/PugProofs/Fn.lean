import PugModel.Fn.Math
/-! `ratTrunc` (Go's float64 -> int64 conversion on the exact rationals): towards zero, the identity on integers. -/
namespace Pug.Fn

theorem ratTrunc_of_nonneg {x : Rat} (h : 0 ≤ x) : ratTrunc x = x.floor := if_neg (Rat.not_lt.mpr h)

theorem ratTrunc_of_neg {x : Rat} (h : x < 0) : ratTrunc x = x.ceil := if_pos h

theorem ratTrunc_intCast (z : Int) : ratTrunc (z : Rat) = z := by
  rw [ratTrunc, Rat.floor_intCast, Rat.ceil_intCast, ite_self]

end Pug.Fn
