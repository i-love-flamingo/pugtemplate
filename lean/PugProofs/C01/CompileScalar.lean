import PugModel.JS.Scalar
import PugModel.Tpl.Compile
import PugProofs.Tpl.Exec
import PugProofs.C01.SpecScalar
/-!
The transpiler model maps every well-formed scalar expression to the explicit template term `tr e`.
-/
namespace Pug.Props.C01S
open Pug Pug.JS Pug.Tpl

/-! the name under which the function map holds an operator's helper (the row of the operator's token in `ops`, `ops_rows`) -/
def helperOf : BinOp → String
  | .add => "__op__add" | .sub => "__op__sub" | .mul => "__op__mul" | .div => "__op__slash" | .mod => "__op__mod"
  | .lt => "__op__lt" | .le => "__op__lte" | .gt => "__op__gt" | .ge => "__op__gte"
  | .eq | .seq => "__op__eql" | .ne | .sne => "__op__neq"
  | .land => "__op__and" | .lor => "__op__or"

/-- the template term the transpiler emits for a scalar expression -/
def tr : SExpr → TExpr
  | .num q _ => .lit (if q.den == 1 then .int q.num else .flt q)
  | .str s => .lit (.str s)
  | .bool b => .lit (.bool b)
  | .var x => .var x
  | .bin op l r => .fcall (helperOf op) [tr l, tr r]
  | .not e => .fcall "__op__not" [tr e]
  | .neg e => .fcall "__op__sub" [tr e]
  | .cond c a b => .fcall "__if" [tr c, tr a, tr b]

/-- well-formed for the transpiler: string literals are not template strings, variables are not function names -/
def WF (env : CEnv) : SExpr → Prop
  | .num .. | .bool _ => True
  | .str s => (s.splitOn "${").length ≤ 1
  | .var x => env.funcs.contains x = false
  | .bin _ l r => WF env l ∧ WF env r
  | .not e | .neg e => WF env e
  | .cond c a b => WF env c ∧ WF env a ∧ WF env b

def binOps : List BinOp := [.add, .sub, .mul, .div, .mod, .lt, .le, .gt, .ge, .eq, .seq, .ne, .sne, .land, .lor]

theorem mem_binOps (op : BinOp) : op ∈ binOps := by cases op <;> decide

/-- the rows of `ops`, the transpiler's operator table, for the tokens of the fragment -/
theorem ops_rows : Gen.ops.find? (·.1 == "NOT") = some ("NOT", "__op__not") ∧
    ∀ op ∈ binOps, Gen.ops.find? (·.1 == tokenName op) = some (tokenName op, helperOf op) := by decide +kernel

theorem ops_row (op : BinOp) : Gen.ops.find? (·.1 == tokenName op) = some (tokenName op, helperOf op) :=
  ops_rows.2 op (mem_binOps op)

theorem opHelper_bin (op : BinOp) : opHelper (tokenName op) = .ok (helperOf op) := by
  rw [opHelper, ops_row]; rfl

theorem opHelper_not : opHelper "NOT" = .ok "__op__not" := by
  rw [opHelper, ops_rows.1]; rfl

theorem opHelper_minus : opHelper "MINUS" = .ok "__op__sub" := opHelper_bin .sub

theorem compile_scalar (env : CEnv) (e : SExpr) (hw : WF env e) (fuel : Nat) (hf : e.depth < fuel) :
    compileExprF fuel env e.toExpr = .ok (some (tr e)) := by
  have hfit : Fits 1 e fuel := fits e (by rwa [Nat.one_mul])
  clear hf
  induction hfit with
  | @str s _ =>
    have : ¬ ((s.splitOn "${").length > 1) := Nat.not_lt.mpr hw
    simp [SExpr.toExpr, compileExprF, tr, this]
  | num | bool =>
    simp [SExpr.toExpr, compileExprF, tr]
  | @var x _ =>
    have hx : ¬ x ∈ env.funcs := by simpa [WF] using hw
    simp [SExpr.toExpr, compileExprF, tr, hx]
  | bin _ _ ihl ihr =>
    simp [SExpr.toExpr, compileExprF, tr, opHelper_bin, ihl hw.1, ihr hw.2]
  | not _ ih =>
    simp [SExpr.toExpr, compileExprF, tr, opHelper_not, ih hw]
  | neg _ ih =>
    simp [SExpr.toExpr, compileExprF, tr, opHelper_minus, ih hw]
  | cond _ _ _ ihc iha ihb =>
    simp [SExpr.toExpr, compileExprF, tr, ihc hw.1, iha hw.2.1, ihb hw.2.2]

/-- at the entry point the transpiler calls, whose fuel is far above any nesting in use -/
theorem compileExpr_scalar (env : CEnv) (e : SExpr) (hw : WF env e) (hd : e.depth < 50000) :
    compileExpr env e.toExpr = .ok (some (tr e)) :=
  compile_scalar env e hw exprFuel (Nat.lt_trans hd (by decide))

end Pug.Props.C01S
