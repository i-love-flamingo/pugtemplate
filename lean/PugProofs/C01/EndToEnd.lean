import PugProofs.C01.EvalScalar
import PugProofs.Tpl.Doc
/-!
End to end, for one buffered expression over scalar page data: JSON data -> initial execution state (Agree), the document
`= e` through the whole transpiler / parser pipeline, execution, printing.
-/
namespace Pug.Props.C01S
open Lean Pug Pug.JS Pug.Tpl Pug.Driver

/-- a scalar JSON value and the scalar it denotes -/
def scalarOf : Json → Option SVal
  | .bool b => some (.bool b)
  | .str s => some (.str s)
  | .num n => some (.num ((n.mantissa : Rat) / ((10 ^ n.exponent : Nat) : Rat)))
  | _ => none

theorem convert_scalar (fuel : Nat) (j : Json) (sv : SVal) (h : Heap) (hs : scalarOf j = some sv) :
    convertDataF (fuel + 1) j h = (h, emb sv) := by
  cases j <;> simp [scalarOf] at hs <;> subst hs <;> simp [convertDataF, emb]

/-- the step of the fold in `convertDataF` on an object: convert the entry's value, append the pair -/
def objStep (fuel : Nat) (acc : Heap × List (String × Val)) (kv : String × Json) : Heap × List (String × Val) :=
  ((convertDataF fuel kv.2 acc.1).1, acc.2 ++ [(kv.1, (convertDataF fuel kv.2 acc.1).2)])

theorem convertDataF_obj (fuel : Nat) (o : Std.TreeMap.Raw String Json) (h : Heap) :
    convertDataF (fuel + 1) (.obj o) h =
      (o.toList.foldl (objStep fuel) (h, [])).1.allocMap { items := (o.toList.foldl (objStep fuel) (h, [])).2, order := [] } := by
  simp only [convertDataF]; rfl

/-- over entries whose values are all scalars: no allocation, items in order -/
theorem fold_scalars (fuel : Nat) (l : List (String × Json)) (svs : List (String × SVal))
    (hl : l.map (fun kv => (kv.1, scalarOf kv.2)) = svs.map (fun kv => (kv.1, some kv.2)))
    (h : Heap) (acc : List (String × Val)) :
    l.foldl (objStep (fuel + 1)) (h, acc) = (h, acc ++ svs.map (fun kv => (kv.1, emb kv.2))) := by
  induction l generalizing svs acc with
  | nil =>
    cases svs with
    | nil => simp
    | cons _ _ => simp at hl
  | cons kv rest ih =>
    cases svs with
    | nil => simp at hl
    | cons sv svs' =>
      simp only [List.map_cons, List.cons.injEq, Prod.mk.injEq] at hl
      obtain ⟨⟨hk, hv⟩, hrest⟩ := hl
      simp only [List.foldl_cons, objStep, convert_scalar fuel kv.2 sv.2 h hv]
      rw [ih svs' hrest]
      simp [hk, List.append_assoc]

/-- the two variables `Template.execute` defines per key (the key and its lower-first alias); for a lower-initial key both are
the same name -/
def twoVars (kv : String × SVal) : List (String × Val) := [("$" ++ kv.1, emb kv.2), ("$" ++ kv.1, emb kv.2)]

theorem find_twoVars (r : SEnv) (x : String) :
    (r.flatMap twoVars).find? (fun e => e.1 == "$" ++ x) =
      (r.find? (fun kv => kv.1 == x)).map fun kv => ("$" ++ kv.1, emb kv.2) := by
  rw [List.find?_flatMap, List.find?_eq_findSome?_guard, List.map_findSome?]
  congr 1
  funext kv
  by_cases h : kv.1 = x <;> simp [twoVars, Option.guard, h]

theorem flatMap_twoVars_reverse (r : SEnv) : (r.flatMap twoVars).reverse = r.reverse.flatMap twoVars :=
  List.reverse_flatMap ..

/-- **the initial state represents the data.** In the variable list `initState` builds from scalar entries, looking up a name other
than `global` gives the representation of the environment's (newest) value. -/
theorem lookup_scalars (svs : SEnv) (dollar g : Val) (x : String) (sv : SVal)
    (hx : sLookup svs x = some sv) (hg : ∀ kv ∈ svs, kv.1 ≠ "global") :
    lookupVar ([("$", dollar)] ++ svs.flatMap twoVars ++ [("$global", g)]) ("$" ++ x) = emb sv := by
  unfold sLookup at hx
  split at hx
  · rename_i k w hf
    cases hx
    -- the name was found in the environment, so it is one of its keys
    obtain rfl : k = x := by simpa using List.find?_some hf
    have h1 : ("$global" == "$" ++ k) = false := by
      have : ¬ ("$" ++ "global" = "$" ++ k) := by
        rw [String.append_right_inj]; exact Ne.symm (hg (k, sv) (by simpa using List.mem_of_find?_eq_some hf))
      simpa using this
    unfold lookupVar
    simp only [List.reverse_append, List.reverse_cons, List.reverse_nil, List.nil_append, List.find?_append, List.find?_cons, h1,
      List.find?_nil, Option.none_or, flatMap_twoVars_reverse, find_twoVars]
    simp [hf]
  · cases hx

/-- page data: a JSON object whose values are scalars, keys lower-initial -/
structure ScalarData (o : Std.TreeMap.Raw String Json) (svs : SEnv) : Prop where
  entries : o.toList.map (fun kv => (kv.1, scalarOf kv.2)) = svs.map (fun kv => (kv.1, some kv.2))
  lower : ∀ kv ∈ svs, lowerFirst kv.1 = kv.1

/-- the left side is the globals list as `initState` builds it (each key and its lower-first alias), in the shape `simp` leaves it -/
theorem flatMap_alias (svs : SEnv) (hlow : ∀ kv ∈ svs, lowerFirst kv.1 = kv.1) :
    (List.map ((fun (x : String × Val) => [("$" ++ x.fst, x.snd), ("$" ++ lowerFirst x.fst, x.snd)]) ∘
        fun (kv : String × SVal) => (kv.fst, emb kv.snd)) svs).flatten = svs.flatMap twoVars := by
  rw [List.flatMap_def]
  exact congrArg List.flatten (List.map_congr_left fun kv hk => by simp only [Function.comp, twoVars, hlow kv hk])

theorem initState_scalars (o : Std.TreeMap.Raw String Json) (svs : SEnv) (hd : ScalarData o svs) :
    (initState (.obj o)).vars = [("$", Val.map 0)] ++ svs.flatMap twoVars ++ [("$global", Val.map 1)] := by
  -- `convertData` starts with fuel 100000; one unit goes on the object, the entries are converted with 99999 = 99998 + 1
  have hfold := fold_scalars 99998 o.toList svs hd.entries Heap.empty []
  have hconv : convertData (.obj o) Heap.empty =
      (Heap.empty.allocMap { items := svs.map (fun kv => (kv.1, emb kv.2)), order := [] }) := by
    have := convertDataF_obj (99998 + 1) o Heap.empty
    rw [hfold] at this
    simpa [convertData] using this
  unfold initState
  rw [hconv]
  simp [Heap.allocMap, Heap.empty, Heap.getMap, flatMap_alias svs hd.lower, List.getD]

theorem agree_initState (o : Std.TreeMap.Raw String Json) (svs : SEnv) (hd : ScalarData o svs)
    (hg : ∀ kv ∈ svs, kv.1 ≠ "global") : Agree (initState (.obj o)) svs := by
  intro x sv hx
  rw [initState_scalars o svs hd, lookup_scalars svs _ _ x sv hx hg]
  exact rep_emb sv

/-- expressions whose buffered form `wrapKind` makes an escaped action: a literal is emitted as static text, a unary expression in
an action form of its own -/
def TopEsc : SExpr → Prop
  | .bin .. | .cond .. | .var _ => True
  | _ => False

/-- the rows of the escape matrix (read from `renderExpression`) for the three kinds: the action ends in the escaper -/
theorem topEsc_rows : (matrixRow "BinaryExpression").2 = true ∧ (matrixRow "ConditionalExpression").2 = true ∧
    (matrixRow "Identifier").2 = true := by decide +kernel

theorem wrapKind_topEsc (e : SExpr) (h : TopEsc e) : wrapKind e.toExpr = .action true := by
  cases e with
  | bin => exact congrArg WrapKind.action topEsc_rows.1
  | cond => exact congrArg WrapKind.action topEsc_rows.2.1
  | var => exact congrArg WrapKind.action topEsc_rows.2.2
  | _ => cases h

theorem compileBuffered_scalar (env : CEnv) (e : SExpr) (hw : WF env e) (ht : TopEsc e) (hd : e.depth < 50000) (esc : Bool) :
    compileBuffered env e.toExpr esc = .ok [.act false false (.print (tr e) esc)] := by
  simp [compileBuffered, wrapKind_topEsc e ht, compileExpr_scalar env e hw hd]

theorem walk_print_scalar {ρ : SEnv} {e : SExpr} {r : SVal} (h : sEval ρ e = some r) {st : St} (hag : Agree st ρ)
    (env : Tpl.Env) (esc : Bool) {fuel : Nat} (hf : 2 * e.depth + 1 < fuel) :
    ∃ v, Rep v r ∧ walk fuel env (.print (tr e) esc) st = printVal v esc st := by
  obtain ⟨f, rfl⟩ := Nat.exists_eq_add_one_of_ne_zero (Nat.ne_zero_of_lt hf)
  obtain ⟨v, hv, rv⟩ := eval_scalar ρ e r h st hag f (Nat.lt_of_succ_lt_succ hf)
  exact ⟨v, rv, walk_print env esc hv⟩

theorem walk_code {ρ : SEnv} {e : SExpr} {v : String} (h : sEval ρ e = some (.str v)) {st : St} (hag : Agree st ρ)
    (env : Tpl.Env) (esc : Bool) {fuel : Nat} (hf : 2 * e.depth + 1 < fuel) :
    walk fuel env (.print (tr e) esc) st = .ok ((), st.put (if esc then pugHtmlEscape v else v)) := by
  obtain ⟨w, rv, hw⟩ := walk_print_scalar h hag env esc hf
  exact hw.trans (printVal_string (by cases rv <;> simp) esc st)

/-- the print action of a scalar expression as a fragment list that prints `s`, what every representation of the expression's value
prints; `100003` covers every depth below 50000 (the action needs `2 * d + 2`) and is the bound the C04 statements carry -/
theorem prints_code {tenv : Tpl.Env} {ρ : SEnv} {e : SExpr} {r : SVal} (h : sEval ρ e = some r) (hdepth : e.depth < 50000)
    (esc : Bool) {s : String} (hs : ∀ v, Rep v r → ∀ st, printVal v esc st = .ok ((), st.put s)) :
    Prints tenv 100003 (fun st => Agree st ρ) [.act false false (.print (tr e) esc)] s := by
  simpa using Prints.nil.act false false fun st hst fuel hf => by
    obtain ⟨v, rv, hv⟩ := walk_print_scalar h hst tenv esc (show 2 * e.depth + 1 < fuel by omega)
    exact hv.trans (hs v rv st)

/-- page data: scalars; document: one buffered code node over a scalar expression; `s`: what every representation of the
expression's value prints (escaped or not). Then the whole model of LoadTemplates + Render answers `s`. -/
theorem render_code {o : Std.TreeMap.Raw String Json} {svs : SEnv} (hd : ScalarData o svs) (hg : ∀ kv ∈ svs, kv.1 ≠ "global")
    {e : SExpr} (inl : Bool) (hw : WF (renderEnv false) e) (ht : TopEsc e) (hdepth : e.depth < 50000) (esc : Bool) {r : SVal}
    (h : sEval svs e = some r) {s : String} (hs : ∀ v, Rep v r → ∀ st, printVal v esc st = .ok ((), st.put s)) :
    renderModel [.codeBuf e.toExpr esc inl] (.obj o) [] false = okOut s := by
  exact render_flat_noTrim
    (compileNodes_single ((compileNodeF_codeBuf ..).trans (compileBuffered_scalar _ e hw ht hdepth esc)))
    (.cons (fun fuel => collect_codeBuf ..) .nil) (by simp [Frag.noTrim]) (prints_code h hdepth esc hs) (fun _ _ h => h)
    (agree_initState o svs hd hg) (by simp)

end Pug.Props.C01S
