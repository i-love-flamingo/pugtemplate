import PugModel.JS.Scalar
/-!
The strict scalar semantics `sEval` agrees with the reference evaluator `JS.evalF` (the oracle of the C01 check) on the
scalar fragment, for every expression, environment and sufficient fuel. `Fits` turns a bound on the depth of an expression into
a derivation along which a fuel-indexed function recurses; the transpiler and the executor are followed along it as well
(`CompileScalar`, `EvalScalar`).
-/
namespace Pug.JS

def SEnv.toJS (ρ : SEnv) : Env := ρ.map fun p => (p.1, p.2.toJS)

theorem lookup_toJS (ρ : SEnv) (x : String) (v : SVal) (h : sLookup ρ x = some v) :
    lookupProp ρ.toJS x = v.toJS := by
  unfold sLookup at h
  unfold lookupProp SEnv.toJS
  rw [← List.map_reverse, List.find?_map]
  split at h
  · rename_i k w hf
    cases h
    simp [Function.comp_def, hf]
  · cases h

theorem toBool_toJS (v : SVal) : toBool v.toJS = sToBool v := by
  cases v <;> rfl

theorem sBin_spec (op : BinOp) (a b v : SVal) (h : sBin op a b = some v) : binPrim op a.toJS b.toJS = some v.toJS := by
  -- `sBin` has the clauses of `binPrim` on operands of one type: clause by clause
  unfold sBin at h
  split at h
  case h_5 x y =>   -- the clause of `/`: the divisor is tested for zero
    split at h <;> cases h
    simp_all [binPrim, SVal.toJS, pure]
  case h_6 x y =>   -- the clause of `%`: `jsRem` is defined on integers only
    obtain ⟨q, hq, rfl⟩ := Option.map_eq_some_iff.mp h
    simp [binPrim, SVal.toJS, hq, bind, Option.bind, pure]
  all_goals first | (cases h; rfl) | cases h

/-- `e` fits into `n` units of fuel when a level of nesting takes `s` of them: the recursion of a fuel-indexed function over `e`
written as a derivation, so that an induction over it has the fuel of every subexpression at hand -/
inductive Fits (s : Nat) : SExpr → Nat → Prop
  | num {q i n} : Fits s (.num q i) (n + 1)
  | str {t n} : Fits s (.str t) (n + 1)
  | bool {b n} : Fits s (.bool b) (n + 1)
  | var {x n} : Fits s (.var x) (n + 1)
  | bin {op l r n} : Fits s l n → Fits s r n → Fits s (.bin op l r) (n + s)
  | not {e n} : Fits s e n → Fits s (.not e) (n + s)
  | neg {e n} : Fits s e n → Fits s (.neg e) (n + s)
  | cond {c a b n} : Fits s c n → Fits s a n → Fits s b n → Fits s (.cond c a b) (n + s)

theorem fuel_step {s d n : Nat} (h : s * (d + 1) < n) : ∃ m, n = m + s ∧ ∀ d' ≤ d, s * d' < m := by
  rw [Nat.mul_succ] at h
  exact ⟨n - s, (Nat.sub_add_cancel (Nat.le_of_lt (Nat.lt_of_le_of_lt (Nat.le_add_left ..) h))).symm,
    fun d' hd => Nat.lt_of_le_of_lt (Nat.mul_le_mul_left s hd) (Nat.lt_sub_of_add_lt h)⟩

theorem fits {s : Nat} (e : SExpr) {n : Nat} (h : s * e.depth < n) : Fits s e n := by
  induction e generalizing n with
  | num | str | bool | var =>
    obtain ⟨m, rfl⟩ := Nat.exists_eq_add_one_of_ne_zero (Nat.ne_zero_of_lt h)
    constructor
  | bin op l r ihl ihr =>
    obtain ⟨m, rfl, hm⟩ := fuel_step h
    exact .bin (ihl (hm _ (Nat.le_max_left ..))) (ihr (hm _ (Nat.le_max_right ..)))
  | not e ih =>
    obtain ⟨m, rfl, hm⟩ := fuel_step h
    exact .not (ih (hm _ (Nat.le_refl _)))
  | neg e ih =>
    obtain ⟨m, rfl, hm⟩ := fuel_step h
    exact .neg (ih (hm _ (Nat.le_refl _)))
  | cond c a b ihc iha ihb =>
    obtain ⟨m, rfl, hm⟩ := fuel_step h
    have hab := Nat.le_max_right c.depth (max a.depth b.depth)
    exact .cond (ihc (hm _ (Nat.le_max_left ..))) (iha (hm _ (Nat.le_trans (Nat.le_max_left ..) hab)))
      (ihb (hm _ (Nat.le_trans (Nat.le_max_right ..) hab)))

theorem evalF_scalar (ρ : SEnv) (e : SExpr) (v : SVal) (h : sEval ρ e = some v) (fuel : Nat) (hf : e.depth < fuel) :
    evalF fuel ρ.toJS e.toExpr = some v.toJS := by
  have hfit : Fits 1 e fuel := fits e (by rwa [Nat.one_mul])
  clear hf
  induction hfit generalizing v with
  | num | str | bool =>
    cases h; rfl
  | @var x f =>
    simp only [sEval] at h
    simp [SExpr.toExpr, evalF, lookup_toJS ρ x v h]
  | not _ ih =>
    obtain ⟨w, hw, rfl⟩ := Option.map_eq_some_iff.mp h
    simp [SExpr.toExpr, evalF, ih w hw, toBool_toJS, bind, Option.bind]
    rfl
  | neg _ ih =>
    simp only [sEval] at h
    split at h <;> cases h
    rename_i q hq
    simp [SExpr.toExpr, evalF, ih (.num q) hq, SVal.toJS, bind, Option.bind]
  | cond _ _ _ ihc iha ihb =>
    simp only [sEval] at h
    split at h <;> cases h
    rename_i vc va vb hc ha hb
    simp only [SExpr.toExpr, evalF, ihc vc hc, bind, Option.bind, toBool_toJS]
    cases sToBool vc <;> simp [iha va ha, ihb vb hb]
  | @bin op _ _ _ _ _ ihl ihr =>
    simp only [sEval] at h
    split at h <;> try cases h
    rename_i a b ha hb
    simp only [SExpr.toExpr, evalF, ihl a ha, bind, Option.bind]
    cases op
    case land | lor =>
      cases h
      simp only [toBool_toJS]
      cases sToBool a <;> simp [ihr b hb, pure]
    all_goals
      simp only [ihr b hb]
      exact sBin_spec _ a b v h

end Pug.JS
