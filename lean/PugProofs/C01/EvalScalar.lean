import PugProofs.C01.CompileScalar
import PugProofs.Tpl.Builtins
import PugProofs.Fn
/-!
The executor model evaluates `tr e` to (a representation of) the strict JavaScript value, leaving the state unchanged.
-/
namespace Pug.Props.C01S
open Pug Pug.JS Pug.Tpl

/-- a model value represents a scalar: raw literal forms and converted objects -/
inductive Rep : Val → SVal → Prop
  | N (q : Rat) : Rep (.N q) (.num q)
  | int (n : Int) : Rep (.int n) (.num n)
  | flt (q : Rat) : Rep (.flt q) (.num q)
  | S (s : String) : Rep (.S s) (.str s)
  | str (s : String) : Rep (.str s) (.str s)
  | B (b : Bool) : Rep (.B b) (.bool b)
  | bool (b : Bool) : Rep (.bool b) (.bool b)

/-- the form `convert` gives a scalar: what the helpers hand back -/
def emb : SVal → Val
  | .num q => .N q
  | .str s => .S s
  | .bool b => .B b

theorem convertRaw_rep {v : Val} {s : SVal} (h : Rep v s) : convertRaw v = emb s := by
  cases h <;> rfl

theorem convertKeep_rep {v : Val} {s : SVal} (h : Rep v s) : convertKeep v = emb s := by
  cases h <;> rfl

theorem rep_emb (s : SVal) : Rep (emb s) s := by
  cases s <;> constructor

theorem truth_rep (hp : Heap) {v : Val} {s : SVal} (h : Rep v s) : truth hp v = sToBool s := by
  cases h <;> simp [truth, sToBool]

/-! ## argument lists of `interface{}` parameters -/

inductive EvalAll (f : Nat) (st : St) : List TExpr → List Val → Prop
  | nil : EvalAll f st [] []
  | cons {a : TExpr} {v : Val} {as : List TExpr} {vs : List Val} :
      evalExpr f a st = .ok (v, st) → EvalAll f st as vs → EvalAll f st (a :: as) (v :: vs)

theorem evalAll_length {f : Nat} {st : St} {args : List TExpr} {vs : List Val} (h : EvalAll f st args vs) :
    args.length = vs.length := by
  induction h with
  | nil => rfl
  | cons _ _ ih => simp [ih]

theorem evalArgs_go_any {f : Nat} {st : St} {args : List TExpr} {vs : List Val} (hev : EvalAll f st args vs) :
    ∀ {tys : List PTy}, (∀ t ∈ tys, t = PTy.any) → evalArgs.go f args tys st = .ok (vs, st) := by
  induction hev with
  | nil => intro _ _; simp [evalArgs.go]
  | @cons a v as vs' hav _ ih =>
    intro tys hty
    have hhead : tys.headD PTy.any = PTy.any := by
      cases tys with
      | nil => rfl
      | cons t _ => exact hty t List.mem_cons_self
    have ih := ih fun t ht => hty t (List.mem_of_mem_tail ht)
    unfold evalArgs.go
    rw [hhead]
    -- a literal argument is handed over as it stands, any other is evaluated; an `interface{}` parameter coerces neither
    split
    · rename_i l
      obtain rfl : l = v := by
        cases f with
        | zero => simp [evalExpr, throwE] at hav
        | succ f => cases (evalExpr_lit f l st).symm.trans hav; rfl
      exact (bind_ok (rfl : literalArg .any l st = .ok (l, st))).trans (bind_ok ih)
    · exact (bind_ok hav).trans ((bind_ok (rfl : validateType .any v st = .ok (v, st))).trans (bind_ok ih))

/-- what `evalArgs` asks of a signature before it evaluates `n` arguments as they stand: the arity allows them, and every
parameter they meet is an `interface{}` -/
def anySig (sig : Sig) (n : Nat) : Bool :=
  !(sig.variadic.isNone && n != sig.fixed.length) && !(sig.variadic.isSome && decide (n < sig.fixed.length)) &&
    (sig.fixed ++ List.replicate (n - sig.fixed.length) (sig.variadic.getD .any)).all (· == .any)

/-- a function-map entry as a call with `n` operands finds it: not one of the executor's own forms `null` and `__freeze`, every
parameter an `interface{}`; bound to the Go function `impl`, or else to the comparison closure `cl` -/
abbrev Entry (name : String) (n : Nat) (impl : Option String) (cl : Option Gen.BExpr) : Prop :=
  (name ≠ "null" ∧ name ≠ "__freeze" ∧ (builtinSig name).any (anySig · n) = true) ∧
    helperImpl name = impl ∧ (impl = none → helperClosure name = cl)

/-- a call of such an entry over arguments that evaluate without changing the state: the entry applied to their values (only the
first part of `Entry` is used: that the call finds the entry; what it is bound to matters to `callBuiltin`) -/
theorem evalExpr_fcall {f : Nat} {st : St} {name : String} {impl : Option String} {cl : Option Gen.BExpr} {args : List TExpr}
    {vs : List Val} (hev : EvalAll f st args vs) (he : Entry name args.length impl cl) :
    evalExpr (f + 2) (.fcall name args) st = callBuiltin name vs st := by
  obtain ⟨⟨hnull, hfreeze, hsig⟩, -⟩ := he
  obtain ⟨sig, hsig, hany⟩ := (Option.any_eq_true ..).mp hsig
  simp only [anySig, Bool.and_eq_true, Bool.not_eq_true', List.all_eq_true, beq_iff_eq] at hany
  obtain ⟨⟨c1, c2⟩, htys⟩ := hany
  have hargs : evalArgs (f + 1) sig name args st = .ok (vs, st) := by
    rw [evalArgs]
    simp only [c1, c2, Bool.false_eq_true, ↓reduceIte]
    exact evalArgs_go_any hev htys
  have h1 : (name == "null") = false := by simpa using hnull
  have h2 : (name == "__freeze") = false := by simpa using hfreeze
  unfold evalExpr
  simp only [h1, h2, Bool.false_eq_true, ↓reduceIte, hsig]
  exact bind_ok hargs

theorem objStr_S (h : Heap) (s : String) : objStr h (strFuel h) (.S s) = some s := by
  simp [strFuel, objStr]

theorem intCast_num (n : Int) : ((n : Int) : Rat).num = n := by simp
theorem intCast_den (n : Int) : ((n : Int) : Rat).den = 1 := by simp

theorem rat_of_den_one (q : Rat) (h : q.den = 1) : ((q.num : Int) : Rat) = q := by
  apply Rat.ext
  · simp
  · simp [h]

theorem add_num (h : Heap) {x y : Val} {a b : Rat} (hx : Rep x (.num a)) (hy : Rep y (.num b)) :
    runtimeAdd h x y = some (.N (a + b)) := by
  simp [runtimeAdd, convertRaw_rep hx, convertRaw_rep hy, emb]

theorem add_str (h : Heap) {x y : Val} {a b : String} (hx : Rep x (.str a)) (hy : Rep y (.str b)) :
    runtimeAdd h x y = some (.S (a ++ b)) := by
  simp [runtimeAdd, convertRaw_rep hx, convertRaw_rep hy, emb, objStr_S]

def arithFns : List (String × String) := [("runtimeSub", "-"), ("runtimeMul", "*"), ("runtimeQuo", "/"), ("runtimeRem", "%")]

/-- every one of them has a case `X op Y` for each of the four pairs of numeric kinds, in the matrix read from runtime.go -/
theorem arith_matrix : (arithFns.all fun p => ["int", "float"].all fun kx => ["int", "float"].all fun ky =>
    Gen.arithMatrix.contains (p.1, kx, ky, "X " ++ p.2 ++ " Y")) = true := by decide +kernel

/-- so a numeric operand pair never falls through to the string "<nil>" -/
theorem hasCase_rep {fn op : String} (hf : (fn, op) ∈ arithFns) {x y : Val} {a b : Rat} (hx : Rep x (.num a))
    (hy : Rep y (.num b)) : hasCase fn op x y = true := by
  have hk : ∀ {v : Val} {q : Rat}, Rep v (.num q) → kindName v ∈ ["int", "float"] := by
    intro v q h; cases h <;> simp [kindName, Val.kind]
  have := arith_matrix
  simp only [List.all_eq_true] at this
  exact this (fn, op) hf _ (hk hx) _ (hk hy)

theorem arith_rep {fn op : String} (hf : (fn, op) ∈ arithFns) (f : Rat → Rat → Option Rat) {x y : Val} {a b : Rat}
    (hx : Rep x (.num a)) (hy : Rep y (.num b)) : arith fn op f x y = (f a b).map Val.N := by
  unfold arith
  rw [hasCase_rep hf hx hy]
  cases hx <;> cases hy <;> simp [Val.num?]

theorem sub_rep {x y : Val} {a b : Rat} (hx : Rep x (.num a)) (hy : Rep y (.num b)) : runtimeSub x y = some (.N (a - b)) := by
  rw [runtimeSub, arith_rep (by simp [arithFns]) _ hx hy]; rfl

theorem mul_rep {x y : Val} {a b : Rat} (hx : Rep x (.num a)) (hy : Rep y (.num b)) : runtimeMul x y = some (.N (a * b)) := by
  rw [runtimeMul, arith_rep (by simp [arithFns]) _ hx hy]; rfl

theorem quo_rep {x y : Val} {a b : Rat} (hx : Rep x (.num a)) (hy : Rep y (.num b)) (hb : b ≠ 0) :
    runtimeQuo x y = some (.N (a / b)) := by
  rw [runtimeQuo, arith_rep (by simp [arithFns]) _ hx hy]; simp [hb]

/-- where the remainder of JavaScript is in the domain (integer operands, divisor not zero) `runtimeRem` computes it -/
theorem rem_js {x y : Val} {a b q : Rat} (hx : Rep x (.num a)) (hy : Rep y (.num b)) (hq : jsRem a b = some q) :
    runtimeRem x y = some (.N q) := by
  unfold jsRem at hq
  split at hq <;> cases hq
  rename_i hc
  simp only [Bool.and_eq_true, beq_iff_eq, bne_iff_ne, ne_eq] at hc
  have ha : Fn.ratTrunc a = a.num := by rw [← rat_of_den_one a hc.1.1, Fn.ratTrunc_intCast]; simp
  have hb : Fn.ratTrunc b = b.num := by rw [← rat_of_den_one b hc.1.2, Fn.ratTrunc_intCast]; simp
  rw [runtimeRem, arith_rep (by simp [arithFns]) _ hx hy]
  simp [ha, hb, hc.2, goRem]

/-- `<` and `==` of the runtime on two numbers, two strings, two booleans, whatever form represents them: by computation -/
theorem cmp_num (h : Heap) {x y : Val} {a b : Rat} (hx : Rep x (.num a)) (hy : Rep y (.num b)) :
    runtimeLss x y = some (decide (a < b)) ∧ runtimeEql h x y = some (a == b) := by
  cases hx <;> cases hy <;> exact ⟨rfl, rfl⟩

theorem cmp_str (h : Heap) {x y : Val} {a b : String} (hx : Rep x (.str a)) (hy : Rep y (.str b)) :
    runtimeLss x y = some (decide (a < b)) ∧ runtimeEql h x y = some (a == b) := by
  cases hx <;> cases hy <;> exact ⟨rfl, rfl⟩

theorem cmp_bool (h : Heap) {x y : Val} {a b : Bool} (hx : Rep x (.bool a)) (hy : Rep y (.bool b)) :
    runtimeLss x y = some false ∧ runtimeEql h x y = some (a == b) := by
  cases hx <;> cases hy <;> exact ⟨rfl, rfl⟩

theorem rat_rel (a b : Rat) :
    (!(decide (a < b)) && !(a == b)) = decide (a > b) ∧ (!(decide (a < b))) = decide (a ≥ b) ∧
    (decide (a < b) || (a == b)) = decide (a ≤ b) := by
  grind

theorem str_gt (a b : String) : (!(decide (a < b)) && !(a == b)) = decide (b < a) := by
  grind

theorem str_ge (a b : String) : (!(decide (a < b))) = (decide (b < a) || a == b) := by
  grind

/-- the Go function that the function map binds an operator's helper to, if the model knows it by name -/
def implName : BinOp → Option String
  | .add => "runtimeAdd" | .sub => "runtimeSub" | .mul => "runtimeMul" | .div => "runtimeQuo" | .mod => "runtimeRem"
  | .lt => "runtimeLss" | .eq | .seq => "runtimeEql" | .land => "and" | .lor => "or"
  | _ => none

/-- what a comparison or equality operator makes of the two primitive relations `<` and `==` on its operands, as a closure
body; for the operators without a Go function of their own it is the closure the function map has to hold -/
def cmpExpr : BinOp → Option Gen.BExpr
  | .lt => some .lss | .le => some (.or .lss .eql) | .gt => some (.and (.not .lss) (.not .eql)) | .ge => some (.not .lss)
  | .eq | .seq => some .eql | .ne | .sne => some (.not .eql)
  | _ => none

/-- the rows of the function map (`helperIdents`, `helperClosures`, with the signatures `builtinSig` derives from them) for the
four kinds of call that `tr` emits -/
theorem funcmap_rows :
    Entry "__op__not" 1 (some "not") none ∧ Entry "__op__sub" 1 (some "runtimeSub") none ∧ Entry "__if" 3 none none ∧
    ∀ op ∈ binOps, Entry (helperOf op) 2 (implName op) (cmpExpr op) := by decide +kernel

theorem entry_not : Entry "__op__not" 1 (some "not") none := funcmap_rows.1
theorem entry_neg : Entry "__op__sub" 1 (some "runtimeSub") none := funcmap_rows.2.1
theorem entry_if : Entry "__if" 3 none none := funcmap_rows.2.2.1
theorem entry_bin (op : BinOp) : Entry (helperOf op) 2 (implName op) (cmpExpr op) :=
  funcmap_rows.2.2.2 op (mem_binOps op)

theorem call_cmp {op : BinOp} {c : Gen.BExpr} (hc : cmpExpr op = some c) {x y : Val} (st : St) {l e ls es : Bool}
    (hxy : runtimeLss x y = some l ∧ runtimeEql st.heap x y = some e)
    (hyx : runtimeLss y x = some ls ∧ runtimeEql st.heap y x = some es) :
    callBuiltin (helperOf op) [x, y] st = .ok (.B (c.eval l e ls es), st) := by
  obtain ⟨-, hi, hcl⟩ := entry_bin op
  cases op <;> cases hc
  case lt => exact callBuiltin_lss hi hxy.1
  case eq | seq => exact callBuiltin_eql hi hxy.2
  all_goals exact callBuiltin_closure hi (hcl rfl) hxy.1 hxy.2 hyx.1 hyx.2

theorem call_bin (op : BinOp) (x y : Val) (a b r : SVal) (hx : Rep x a) (hy : Rep y b)
    (h : sBin op a b = some r) (st : St) :
    ∃ v, callBuiltin (helperOf op) [x, y] st = .ok (v, st) ∧ Rep v r := by
  obtain ⟨-, hi, -⟩ := entry_bin op
  cases a <;> cases b
  case num.num a b =>
    have cmp {c : Gen.BExpr} (hc : cmpExpr op = some c) := call_cmp hc st (cmp_num _ hx hy) (cmp_num _ hy hx)
    cases op
    case div =>
      simp only [sBin] at h
      split at h <;> cases h
      exact ⟨_, by rw [callBuiltin_quo hi, quo_rep hx hy (by simp_all), ofOpt_some], .N _⟩
    case mod =>
      obtain ⟨q, hq, rfl⟩ := Option.map_eq_some_iff.mp h
      exact ⟨_, by rw [callBuiltin_rem hi, rem_js hx hy hq, ofOpt_some], .N q⟩
    all_goals cases h
    case add => exact ⟨_, by rw [callBuiltin_add hi, add_num _ hx hy, ofOpt_some], .N _⟩
    case sub => exact ⟨_, by rw [callBuiltin_sub hi, sub_rep hx hy, ofOpt_some], .N _⟩
    case mul => exact ⟨_, by rw [callBuiltin_mul hi, mul_rep hx hy, ofOpt_some], .N _⟩
    case le => rw [← (rat_rel a b).2.2]; exact ⟨_, cmp rfl, .B _⟩
    case gt => rw [← (rat_rel a b).1]; exact ⟨_, cmp rfl, .B _⟩
    case ge => rw [← (rat_rel a b).2.1]; exact ⟨_, cmp rfl, .B _⟩
    case lt | eq | seq | ne | sne => exact ⟨_, cmp rfl, .B _⟩
  case str.str a b =>
    have cmp {c : Gen.BExpr} (hc : cmpExpr op = some c) := call_cmp hc st (cmp_str _ hx hy) (cmp_str _ hy hx)
    cases op <;> cases h
    case add => exact ⟨_, by rw [callBuiltin_add hi, add_str _ hx hy, ofOpt_some], .S _⟩
    case gt => rw [← str_gt a b]; exact ⟨_, cmp rfl, .B _⟩
    case ge => rw [← str_ge a b]; exact ⟨_, cmp rfl, .B _⟩
    case lt | le | eq | seq | ne | sne => exact ⟨_, cmp rfl, .B _⟩
  case bool.bool a b =>
    have cmp {c : Gen.BExpr} (hc : cmpExpr op = some c) := call_cmp hc st (cmp_bool _ hx hy) (cmp_bool _ hy hx)
    cases op <;> cases h
    case eq | seq | ne | sne => exact ⟨_, cmp rfl, .B _⟩
  all_goals cases op <;> cases h

/-- the variables of the execution state hold (representations of) the environment's values -/
def Agree (st : St) (ρ : SEnv) : Prop :=
  ∀ x v, sLookup ρ x = some v → Rep (lookupVar st.vars ("$" ++ x)) v

theorem sig_add : builtinSig "__op__add" = some (anyN 2) := by rfl

theorem eval_scalar (ρ : SEnv) (e : SExpr) (r : SVal) (h : sEval ρ e = some r) (st : St) (hag : Agree st ρ)
    (fuel : Nat) (hf : 2 * e.depth < fuel) :
    ∃ v, evalExpr fuel (tr e) st = .ok (v, st) ∧ Rep v r := by
  have hfit := fits e hf
  clear hf
  induction hfit generalizing r with
  | @num q _ _ =>
    cases h
    refine ⟨_, evalExpr_lit .., ?_⟩
    split
    · rename_i hd; exact rat_of_den_one q (by simpa using hd) ▸ Rep.int q.num
    · exact Rep.flt q
  | @str s _ =>
    cases h; exact ⟨_, evalExpr_lit .., Rep.str s⟩
  | @bool b _ =>
    cases h; exact ⟨_, evalExpr_lit .., Rep.bool b⟩
  | @var x _ =>
    exact ⟨_, by rw [tr, evalExpr]; rfl, hag x r h⟩
  | @bin op _ _ _ _ _ ihl ihr =>
    simp only [sEval] at h
    split at h <;> try cases h
    rename_i a b ha hb
    obtain ⟨x, hx, rx⟩ := ihl a ha
    obtain ⟨y, hy, ry⟩ := ihr b hb
    rw [tr, evalExpr_fcall (.cons hx (.cons hy .nil)) (entry_bin op)]
    obtain ⟨-, hi, -⟩ := entry_bin op
    cases op
    case land =>
      cases h
      exact ⟨_, callBuiltin_and hi, by
        rw [truth_rep _ rx]; cases sToBool a <;> simp [convertKeep_rep rx, convertKeep_rep ry, rep_emb]⟩
    case lor =>
      cases h
      exact ⟨_, callBuiltin_or hi, by
        rw [truth_rep _ rx]; cases sToBool a <;> simp [convertRaw_rep rx, convertKeep_rep ry, rep_emb]⟩
    all_goals exact call_bin _ x y a b r rx ry h st
  | not _ ih =>
    obtain ⟨w, hw, rfl⟩ := Option.map_eq_some_iff.mp h
    obtain ⟨x, hx, rx⟩ := ih w hw
    rw [tr, evalExpr_fcall (.cons hx .nil) entry_not, callBuiltin_not entry_not.2.1, truth_rep _ rx]
    exact ⟨_, rfl, Rep.B _⟩
  | neg _ ih =>
    simp only [sEval] at h
    split at h <;> cases h
    rename_i q hq
    obtain ⟨x, hx, rx⟩ := ih (.num q) hq
    rw [tr, evalExpr_fcall (.cons hx .nil) entry_neg, callBuiltin_neg entry_neg.2.1, sub_rep (Rep.int 0) rx]
    exact ⟨_, rfl, (by grind : ((0 : Int) : Rat) - q = -q) ▸ Rep.N _⟩
  | cond _ _ _ ihc iha ihb =>
    simp only [sEval] at h
    split at h <;> cases h
    rename_i vc va vb hc ha hb
    obtain ⟨t, ht, rt⟩ := ihc vc hc
    obtain ⟨x, hx, rx⟩ := iha va ha
    obtain ⟨y, hy, ry⟩ := ihb vb hb
    rw [tr, evalExpr_fcall (.cons ht (.cons hx (.cons hy .nil))) entry_if, callBuiltin_if, truth_rep _ rt]
    exact ⟨_, rfl, by cases sToBool vc <;> simp [convertRaw_rep rx, convertRaw_rep ry, rep_emb]⟩

end Pug.Props.C01S
