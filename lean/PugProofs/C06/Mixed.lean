import PugProofs.C06.Static
import PugProofs.C01.EndToEnd
/-!
Documents that mix static structure (text, doctype, tags without attributes, any nesting) with escaped buffered code `= e`
over the scalar fragment, anywhere in the tree: the fragments the transpiler emits print the serialisation of the tree with
`escape (value of e)` at every code node, from every state that holds the page data.
-/
namespace Pug.Props.MixedS
open Pug Pug.Tpl Pug.JS Pug.Props.C01S Pug.Props.C06S

/-- `MSer ρ env fuel n out`: the node `n` is text, a doctype, a tag without attributes (not `script`) over such nodes, or the
escaped buffered code `= e` of a well-formed scalar expression whose JavaScript value over the page data `ρ` is a string - and
`out` is its reference serialisation (start tag, children, end tag; void elements without children and end tag; text as it is;
the code node's value escaped). -/
def MSer (ρ : SEnv) (env : CEnv) : Nat → Node → String → Prop
  | 0, _, _ => False
  | fuel + 1, n, out =>
    match n with
    | .text s => out = s
    | .doctype v => out = "<!DOCTYPE " ++ v ++ ">\n"
    | .codeBuf x esc _ => ∃ e s, x = e.toExpr ∧ esc = true ∧ WF env e ∧ TopEsc e ∧ e.depth < 50000 ∧
        sEval ρ e = some (.str s) ∧ out = pugHtmlEscape s
    | .tag name _ attrs ablocks kids => attrs = [] ∧ ablocks = [] ∧ name ≠ "script" ∧
        ∃ outs, Rel2 (MSer ρ env fuel) kids outs ∧
          out = if voidTags.contains name then "<" ++ name ++ ">" else "<" ++ name ++ ">" ++ cat outs ++ "</" ++ name ++ ">"
    | _ => False

/-- a list of such nodes (nesting depth at most `d`) and the concatenation of their serialisations -/
def MSerL (ρ : SEnv) (env : CEnv) (d : Nat) (ns : List Node) (out : String) : Prop :=
  ∃ outs, Rel2 (MSer ρ env d) ns outs ∧ out = cat outs

/-- no trim markers, and the fragments print `s` from every state that holds the page data `ρ`; `100003` is the bound in the statement
of `C04_escaped_in_every_position`; every code node `MSer` admits has depth below 50000, and the print action of depth `d` needs
`2 * d + 2` -/
def PrintsData (tenv : Tpl.Env) (ρ : SEnv) (fs : List Frag) (s : String) : Prop :=
  (∀ f ∈ fs, f.noTrim = true) ∧ Prints tenv 100003 (fun st => Agree st ρ) fs s

theorem printsDataInv (tenv : Tpl.Env) (ρ : SEnv) : FragInv false (PrintsData tenv ρ) where
  nil := ⟨nofun, .nil⟩
  append h1 h2 := ⟨List.forall_mem_append.mpr ⟨h1.1, h2.1⟩, h1.2.append h2.2⟩
  text s := ⟨List.forall_mem_cons.mpr ⟨rfl, nofun⟩, by simpa using Prints.nil.text s⟩
  lbrace := ⟨List.forall_mem_cons.mpr ⟨rfl, nofun⟩, by simpa [lbraceAct] using Prints.nil.lit false false "{" (by decide)⟩
  sep := nofun

/-- two units of fuel per level: `compileNodeF` on the tag, `compileNodesF` on its children -/
theorem compile_mixed {ρ : SEnv} (tenv : Tpl.Env) (env : CEnv) (hd : env.debug = false) (d : Nat) :
    ∀ n out, MSer ρ env d n out → ∀ fuel, 2 * d ≤ fuel → ∃ fs, compileNodeF fuel env n = .ok fs ∧ PrintsData tenv ρ fs out := by
  induction d with
  | zero => intro n out h; simp [MSer] at h
  | succ d ih =>
    intro n out hn fuel hfuel
    rw [Nat.mul_succ] at hfuel
    obtain ⟨f, rfl⟩ := Nat.exists_eq_add_of_le' (Nat.le_trans (Nat.le_add_left 2 _) hfuel)
    have hd2 : 2 * d ≤ f := Nat.le_of_add_le_add_right hfuel
    cases n with
    | text s => obtain rfl : out = s := hn; exact ⟨_, compileNodeF_text _ env out, (printsDataInv tenv ρ).quote out⟩
    | doctype v => obtain rfl : out = _ := hn; exact ⟨_, compileNodeF_doctype _ env v, (printsDataInv tenv ρ).text _⟩
    | codeBuf x esc inl =>
      obtain ⟨e, s, rfl, rfl, hw, ht, hdep, hv, rfl⟩ := hn
      refine ⟨_, (compileNodeF_codeBuf ..).trans (compileBuffered_scalar env e hw ht hdep true),
        List.forall_mem_cons.mpr ⟨rfl, nofun⟩,
        prints_code hv hdep true fun v rv st => printVal_string (by cases rv <;> simp) true st⟩
    | tag name inl attrs ablocks kids =>
      obtain ⟨rfl, rfl, hname, outs, hk, rfl⟩ := hn
      obtain ⟨fss, m1, s2⟩ := (printsDataInv tenv ρ).mapM (fun n out h => ih n out h f hd2) kids outs hk
      exact ⟨_, compileNodeF_tag hname inl (compileNodesF_ok m1), hd ▸ (printsDataInv tenv ρ).tag name inl _ s2⟩
    | _ => simp [MSer] at hn

theorem compileNodes_mixed {ρ : SEnv} (tenv : Tpl.Env) (env : CEnv) (hd : env.debug = false) (d : Nat) (hdep : 2 * d < nodeFuel)
    (ns : List Node) (out : String) (h : MSerL ρ env d ns out) :
    ∃ fs, compileNodes env ns = .ok fs ∧ PrintsData tenv ρ fs out := by
  obtain ⟨outs, hr, rfl⟩ := h
  obtain ⟨fss, h1, h2⟩ := (printsDataInv tenv ρ).mapM
    (fun n out h => compile_mixed tenv env hd d n out h 99999 (Nat.le_of_lt_succ hdep)) ns outs hr
  exact ⟨_, compileNodesF_ok h1, h2⟩

theorem collect_mixed {ρ : SEnv} {env : CEnv} (d : Nat) :
    ∀ n out, MSer ρ env d n out → ∀ fuel, collectMixinDefsF (fuel + 1) [n] = [] := by
  induction d with
  | zero => intro n out h; simp [MSer] at h
  | succ d ih =>
    intro n out hn fuel
    cases n with
    | tag name inl attrs ablocks kids =>
      obtain ⟨_, _, _, outs, hk, _⟩ := hn
      rw [collect_tag]; exact NoMixins.rel2 ih kids outs hk fuel
    | text => exact collect_text ..
    | doctype => exact collect_doctype ..
    | codeBuf => exact collect_codeBuf ..
    | _ => simp [MSer] at hn

end Pug.Props.MixedS
