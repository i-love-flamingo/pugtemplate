import PugProofs.Tpl.Doc
/-!
Static documents (text, tags without attributes, doctype - any nesting, any text incl. braces): the transpiler emits a list of
literal texts and `{{"{"}}` actions (`Plain`) whose text (`fragsStr`) is the serialisation of the tree (`serListF`).
-/
namespace Pug.Props.C06S
open Pug Pug.Tpl

/-- the fragments static content compiles to: literal text, or the action `{{"{"}}` -/
def plainB : Frag → Bool
  | .text _ => true
  | .act false false (.print (.lit (.str "{")) false) => true
  | _ => false

/-- what a plain fragment prints -/
def fragStr : Frag → String
  | .text s => s
  | _ => "{"

def fragsStr : List Frag → String
  | [] => ""
  | f :: fs => fragStr f ++ fragsStr fs

theorem fragsStr_append (a b : List Frag) : fragsStr (a ++ b) = fragsStr a ++ fragsStr b := by
  induction a with
  | nil => simp [fragsStr]
  | cons f fs ih => simp [fragsStr, ih, String.append_assoc]

def Plain (fs : List Frag) : Prop := ∀ f ∈ fs, plainB f = true

theorem plain_cons {f : Frag} {fs : List Frag} : Plain (f :: fs) ↔ plainB f = true ∧ Plain fs := List.forall_mem_cons

theorem plain_act {lt rt : Bool} {x : Act} (h : plainB (.act lt rt x) = true) :
    lt = false ∧ rt = false ∧ x = .print (.lit (.str "{")) false := by
  unfold plainB at h
  split at h <;> simp_all

theorem plain_cases {f : Frag} (h : plainB f = true) : (∃ s, f = .text s) ∨ f = lbraceAct := by
  cases f with
  | text s => exact .inl ⟨s, rfl⟩
  | blockDef => cases h
  | act lt rt x => obtain ⟨rfl, rfl, rfl⟩ := plain_act h; exact .inr rfl

theorem plain_flat {fs : List Frag} (h : Plain fs) : ∀ f ∈ fs, f.flat = true := fun f hf => by
  rcases plain_cases (h f hf) with ⟨s, rfl⟩ | rfl <;> rfl

theorem plain_noTrim {fs : List Frag} (h : Plain fs) : ∀ f ∈ fs, f.noTrim = true := fun f hf => by
  rcases plain_cases (h f hf) with ⟨s, rfl⟩ | rfl <;> rfl

theorem plain_noBlockDef {fs : List Frag} (h : Plain fs) : ∀ f ∈ fs, ∀ m b, f ≠ .blockDef m b :=
  fun _ hf _ _ e => nomatch e ▸ h _ hf

theorem plain_merge {fs : List Frag} (h : Plain fs) : Plain (mergeTexts fs) := all_mergeTexts (fun _ => rfl) h

theorem prints_plain (env : Tpl.Env) (S : St → Prop) : ∀ {fs : List Frag}, Plain fs → Prints env 2 S fs (fragsStr fs)
  | [], _ => .nil
  | f :: fs, h => by
    have ih := prints_plain env S (plain_cons.mp h).2
    rcases plain_cases (plain_cons.mp h).1 with ⟨s, rfl⟩ | rfl
    · exact ih.text s
    · exact ih.lit false false "{" (Nat.le_refl 2)

def nodesOf : List Frag → List TNode
  | [] => []
  | .text s :: rest => if s.isEmpty then nodesOf rest else .text s :: nodesOf rest
  | _ :: rest => .print (.lit (.str "{")) false :: nodesOf rest

theorem nodesOf_eq : ∀ {fs : List Frag}, Plain fs → nodesOf fs = flatNodes fs
  | [], _ => rfl
  | f :: fs, h => by
    have ih := nodesOf_eq (plain_cons.mp h).2
    rcases plain_cases (plain_cons.mp h).1 with ⟨s, rfl⟩ | rfl <;> simp [nodesOf, flatNodes, ih, lbraceAct]

theorem walk_nodes (env : Env) (fs : List Frag) (hp : Plain fs) (st : St) (fuel : Nat) (hf : fs.length + 2 < fuel) :
    walkList fuel env (nodesOf fs) st = .ok ((), { st with out := st.out ++ fragsStr fs }) :=
  nodesOf_eq hp ▸ (prints_plain env (fun _ => True) hp).walk (fun _ _ _ => trivial) trivial hf

/-! ## static documents: text, doctype, tags without attributes (not `script`), any nesting

`Node` is a nested inductive type; the predicate, the serialisation and the transpiler all recurse on a fuel, and
`compile_static_inv` is one induction on that shared fuel. -/

mutual
def staticF : Nat → Node → Bool
  | 0, _ => false
  | fuel + 1, n =>
    match n with
    | .text _ => true
    | .doctype _ => true
    | .tag name _ attrs ablocks kids => attrs.isEmpty && ablocks.isEmpty && name != "script" && staticListF fuel kids
    | _ => false
def staticListF : Nat → List Node → Bool
  | 0, _ => false
  | fuel + 1, ns => ns.all (staticF fuel)
end

/-! the reference serialisation of a static tree: start tag, children, end tag; void elements have neither children nor
end tag; text as it is -/
mutual
def serF : Nat → Node → String
  | 0, _ => ""
  | fuel + 1, n =>
    match n with
    | .text s => s
    | .doctype v => "<!DOCTYPE " ++ v ++ ">\n"
    | .tag name _ _ _ kids =>
      if voidTags.contains name then "<" ++ name ++ ">" else "<" ++ name ++ ">" ++ serListF fuel kids ++ "</" ++ name ++ ">"
    | _ => ""
def serListF : Nat → List Node → String
  | 0, _ => ""
  | fuel + 1, ns => (ns.map (serF fuel)).foldr (· ++ ·) ""
end

theorem staticF_tag {fuel : Nat} {name : String} {inl : Bool} {attrs : List Attr} {ablocks : List String} {kids : List Node}
    (h : staticF (fuel + 1) (.tag name inl attrs ablocks kids) = true) :
    attrs = [] ∧ ablocks = [] ∧ name ≠ "script" ∧ staticListF fuel kids = true := by
  simpa [staticF, and_assoc] using h

/-- **the transpiler on static trees, for any invariant it keeps**: in either mode the fragments of a static tree stand for its
serialisation, in whatever sense `P` the parts do -/
theorem compile_static_inv {env : CEnv} {P : List Frag → String → Prop} (I : FragInv env.debug P) (fuel : Nat) :
    (∀ n, staticF fuel n = true → ∃ fs, compileNodeF fuel env n = .ok fs ∧ P fs (serF fuel n)) ∧
    (∀ ns, staticListF fuel ns = true → ∃ fs, compileNodesF fuel env ns = .ok fs ∧ P fs (serListF fuel ns)) := by
  induction fuel with
  | zero => exact ⟨fun n h => by simp [staticF] at h, fun ns h => by simp [staticListF] at h⟩
  | succ fuel ih =>
    refine ⟨fun n hn => ?_, fun ns hns => ?_⟩
    · cases n with
      | text s => exact ⟨_, compileNodeF_text fuel env s, I.quote s⟩
      | doctype v => exact ⟨_, compileNodeF_doctype fuel env v, I.text _⟩
      | tag name inl attrs ablocks kids =>
        obtain ⟨rfl, rfl, hname, hk⟩ := staticF_tag hn
        obtain ⟨sub, s1, s2⟩ := ih.2 kids hk
        exact ⟨_, compileNodeF_tag hname inl s1, I.tag name inl _ s2⟩
      | _ => simp [staticF] at hn
    · obtain ⟨fss, h1, h2⟩ := I.mapM (fun n out h => by obtain ⟨h, rfl⟩ := h; exact ih.1 n h) ns _
        (MixedS.rel2_map (serF fuel) (List.all_eq_true.mp hns))
      exact ⟨_, compileNodesF_ok h1, h2⟩

theorem plainInv : FragInv false fun fs s => Plain fs ∧ fragsStr fs = s where
  nil := ⟨nofun, rfl⟩
  append := fun ⟨h1, e1⟩ ⟨h2, e2⟩ => ⟨List.forall_mem_append.mpr ⟨h1, h2⟩, by rw [fragsStr_append, e1, e2]⟩
  text s := ⟨plain_cons.mpr ⟨rfl, nofun⟩, String.append_empty⟩
  lbrace := ⟨plain_cons.mpr ⟨rfl, nofun⟩, rfl⟩
  sep := nofun

theorem compile_static (env : CEnv) (hd : env.debug = false) (fuel : Nat) :
    (∀ n, staticF fuel n = true → ∃ fs, compileNodeF fuel env n = .ok fs ∧ Plain fs ∧ fragsStr fs = serF fuel n) ∧
    (∀ ns, staticListF fuel ns = true →
      ∃ fs, compileNodesF fuel env ns = .ok fs ∧ Plain fs ∧ fragsStr fs = serListF fuel ns) :=
  compile_static_inv (hd ▸ plainInv) fuel

theorem collect_static (sf : Nat) : (∀ n, staticF sf n = true → ∀ fuel, collectMixinDefsF (fuel + 1) [n] = []) ∧
    (∀ ns, staticListF sf ns = true → NoMixins ns) := by
  induction sf with
  | zero => exact ⟨fun n h => by simp [staticF] at h, fun ns h => by simp [staticListF] at h⟩
  | succ sf ih =>
    refine ⟨fun n hn fuel => ?_, fun ns hns => ?_⟩
    · cases n with
      | tag name inl attrs ablocks kids => rw [collect_tag]; exact ih.2 kids (staticF_tag hn).2.2.2 fuel
      | text => exact collect_text ..
      | doctype => exact collect_doctype ..
      | _ => simp [staticF] at hn
    · exact NoMixins.rel2 (fun n _ h => ih.1 n h.1) ns _ (MixedS.rel2_map (serF sf) (List.all_eq_true.mp hns))

end Pug.Props.C06S
